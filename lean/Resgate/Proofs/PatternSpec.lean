import Resgate.Proofs.PatternParse

/-
`match_spec`: for a valid pattern and a name whose tokens are non-empty, the byte-level loop of
`ResourcePattern.Match` computes token-wise NATS wildcard matching (`tokMatch`).  The invariant
lives at token boundaries, where what is left of pattern and name is the `tailOf` of the tokens
still to come (`mNext_tailOf`); inside a token the loop compares literal bytes (`lit_next`) or
skips to the next dot (`star_next`).
-/

namespace Resgate

theorem tokMatch_star (pts : List Bytes) (st : Bytes) (sts : List Bytes) :
    tokMatch ([cStar] :: pts) (st :: sts) = tokMatch pts sts := by
  simp [tokMatch, cStar, cGt]

theorem tokMatch_gt (pts : List Bytes) (st : Bytes) (sts : List Bytes) :
    tokMatch ([cGt] :: pts) (st :: sts) = true := by
  simp [tokMatch]

theorem tokMatch_lit {pt : Bytes} (h : isWildTok pt = false) (pts : List Bytes) (st : Bytes)
    (sts : List Bytes) : tokMatch (pt :: pts) (st :: sts) = (pt = st && tokMatch pts sts) := by
  simp only [isWildTok, Bool.or_eq_false_iff, decide_eq_false_iff_not] at h
  simp [tokMatch, h]

/-- Literal bytes are compared one by one; a literal token matches exactly itself. -/
theorem lit_next {t st : Bytes} (ht : t.all litByte = true) (hst : cDot ∉ st)
    (pts sts : List Bytes) :
    mNext (t ++ tailOf cDot pts) (st ++ tailOf cDot sts) =
      if t = st then mNext (tailOf cDot pts) (tailOf cDot sts) else some false := by
  induction t generalizing st with
  | nil =>
    cases st with
    | nil => simp
    | cons sc st =>
      simp only [List.mem_cons, not_or] at hst
      cases pts <;> simp [matchAux_dot, Ne.symm hst.1]
  | cons pc t ih =>
    simp only [List.all_cons, Bool.and_eq_true, litByte_iff] at ht
    obtain ⟨⟨-, -, -, hs, hg, hd⟩, ht⟩ := ht
    cases st with
    | nil => cases sts <;> simp [matchAux_lit hg hs, Ne.symm hd]
    | cons sc st =>
      simp only [List.mem_cons, not_or] at hst
      simp only [List.cons_append, mNext_cons_cons, matchAux_lit hg hs]
      by_cases e : sc = pc
      · simp [e, ih ht hst.2]
      · simp [e, Ne.symm e]

/-- A `*` consumes the rest of the current token of the name, whatever it is. -/
theorem star_next {st : Bytes} (hst : cDot ∉ st) (pts sts : List Bytes) :
    mStarNext (tailOf cDot pts) (st ++ tailOf cDot sts) =
      mNext (tailOf cDot pts) (tailOf cDot sts) := by
  induction st with
  | nil =>
    cases sts with
    | nil => simp
    | cons s sts => cases pts <;> simp [matchAux_scan, mDot, matchAux_dot]
  | cons sc st ih =>
    simp only [List.mem_cons, not_or] at hst
    simp [matchAux_scan, Ne.symm hst.1, ih hst.2]

/-- The loop computes token-wise matching, from any token boundary. -/
theorem mNext_tailOf {pts sts : List Bytes} (hp : pts = [] ∨ patTokensOK pts = true)
    (hs : ∀ t ∈ sts, t ≠ [] ∧ cDot ∉ t) :
    mNext (tailOf cDot pts) (tailOf cDot sts) = some (tokMatch pts sts) := by
  induction pts generalizing sts with
  | nil => cases sts <;> simp [tokMatch]
  | cons pt pts ih =>
    cases sts with
    | nil => simp [tokMatch]
    | cons st sts =>
      obtain ⟨hrest, hpt⟩ := patTokensOK_cases (hp.resolve_left (List.cons_ne_nil _ _))
      obtain ⟨hne, hst⟩ := hs st (by simp)
      obtain ⟨sc, st, rfl⟩ := List.exists_cons_of_ne_nil hne
      have ih := ih (sts := sts) hrest fun t ht => hs t (by simp [ht])
      simp only [tailOf_cons, List.cons_append, mNext_cons_cons, matchAux_dot, if_true]
      rcases hpt with rfl | ⟨rfl, -⟩ | hlit
      · -- `*`
        simp only [List.mem_cons, not_or] at hst
        simp [matchAux_star, matchAux_scan, Ne.symm hst.1, star_next hst.2, ih, tokMatch_star]
      · -- `>`
        simp [matchAux_gt, tokMatch_gt]
      · -- a literal token
        rw [← List.cons_append, lit_next hlit hst, ih, tokMatch_lit (isWildTok_of_lit hlit)]
        by_cases e : pt = sc :: st <;> simp [e]

/-- A matching name is at least as long as the pattern (the early exit of `Match`). -/
theorem tokMatch_length {pts sts : List Bytes} (hp : pts = [] ∨ patTokensOK pts = true)
    (hs : ∀ t ∈ sts, t ≠ []) (hm : tokMatch pts sts = true) :
    (tailOf cDot pts).length ≤ (tailOf cDot sts).length := by
  induction pts generalizing sts with
  | nil => simp
  | cons pt pts ih =>
    cases sts with
    | nil => simp [tokMatch] at hm
    | cons st sts =>
      obtain ⟨hrest, hpt⟩ := patTokensOK_cases (hp.resolve_left (List.cons_ne_nil _ _))
      have hlen : 0 < st.length := List.length_pos_iff.mpr (hs st (by simp))
      have ih := ih (sts := sts) hrest fun t ht => hs t (by simp [ht])
      simp only [tailOf_cons, List.length_cons, List.length_append]
      rcases hpt with rfl | ⟨rfl, rfl⟩ | hlit
      · have := ih (by rwa [tokMatch_star] at hm)
        rw [List.length_singleton]
        omega
      · rw [List.length_singleton, tailOf_nil, List.length_nil]
        omega
      · rw [tokMatch_lit (isWildTok_of_lit hlit), Bool.and_eq_true, decide_eq_true_eq] at hm
        have := ih hm.2
        rw [hm.1]
        omega

theorem tokMatch_no_wild {pts : List Bytes} (h : pts.any isWildTok = false) (sts : List Bytes) :
    tokMatch pts sts = decide (pts = sts) := by
  induction pts generalizing sts with
  | nil => cases sts <;> simp [tokMatch]
  | cons pt pts ih =>
    simp only [List.any_cons, Bool.or_eq_false_iff] at h
    cases sts with
    | nil => simp [tokMatch]
    | cons st sts => simp [tokMatch_lit h.1, ih h.2]

/-- Matching is token-wise, for every byte string taken as a pattern: only one with well-formed
    tokens matches anything, and it matches by `tokMatch`. -/
theorem parsePattern_matches (p s : Bytes) (hs : ∀ t ∈ splitOn cDot s, t ≠ []) :
    (parsePattern p).matches s =
      (patTokensOK (splitOn cDot p) && tokMatch (splitOn cDot p) (splitOn cDot s)) := by
  rw [parsePattern_eq]
  by_cases hp : patTokensOK (splitOn cDot p) = true
  case neg => simp [hp, invalid_matches_nothing]
  have hp0 := ne_nil_of_patTokensOK hp
  have hs0 : s ≠ [] := by
    rintro rfl
    exact hs [] (by simp) rfl
  have hloop : matchAux false p s = some (tokMatch (splitOn cDot p) (splitOn cDot s)) := by
    simpa [tailOf_splitOn, matchAux_dot, mNext, hp0, hs0] using
      mNext_tailOf (Or.inr hp) fun t ht => ⟨hs t ht, splitOn_tokens_no_sep cDot s t ht⟩
  have hlen : tokMatch (splitOn cDot p) (splitOn cDot s) = true → p.length ≤ s.length := by
    intro hm
    simpa [tailOf_splitOn] using tokMatch_length (Or.inr hp) hs hm
  rw [if_pos hp, hp, Bool.true_and]
  unfold Pattern.matches Pattern.matches?
  rw [if_neg (by simpa using hp0)]
  cases hw : (splitOn cDot p).any isWildTok with
  | false =>
    -- a literal pattern: equal strings have equal tokens
    simp [tokMatch_no_wild hw, splitOn_inj, eq_comm]
  | true =>
    rw [if_neg (by simp)]
    by_cases hgt : p.length > s.length
    · rw [if_pos hgt]
      cases hm : tokMatch (splitOn cDot p) (splitOn cDot s) with
      | false => rfl
      | true =>
        have := hlen hm
        omega
    · rw [if_neg hgt, hloop]
      rfl

/-- C12 `match_spec`: for every pattern whose dot-separated tokens are valid and every name whose
    tokens are non-empty, `ParseResourcePattern(p).Match(s)` is token-wise wildcard matching. -/
theorem match_spec (p s : Bytes) (hp : patTokensOK (splitOn cDot p) = true)
    (hs : ∀ t ∈ splitOn cDot s, t ≠ []) :
    (parsePattern p).matches s = tokMatch (splitOn cDot p) (splitOn cDot s) := by
  rw [parsePattern_matches p s hs, hp, Bool.true_and]

/-- `match_spec` for every pattern the parser accepts. -/
theorem match_spec_valid (p s : Bytes) (hp : (parsePattern p).isValid = true)
    (hs : ∀ t ∈ splitOn cDot s, t ≠ []) :
    (parsePattern p).matches s = tokMatch (splitOn cDot p) (splitOn cDot s) :=
  match_spec p s ((parse_valid_iff p).mp hp) hs

end Resgate
