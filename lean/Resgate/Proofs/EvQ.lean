/-
The event queue of a subscription (`Subscription.Event`, `queueEvents`, `unqueueEvents`) as an
abstract machine: events already processed, events waiting, and whether the subscription queues.
It calls no model function: it mirrors the discipline of the gateway model's event queue, whose
state (`queueFlag`, queued events) is in every lockstep snapshot.  Order is preserved by queueing
(C03, C06).
-/

namespace Resgate.EvQ

/-- Abstract subscription event queue: events already processed (in order), events waiting. -/
structure Q (ε : Type) where
  done : List ε
  waiting : List ε
  queueing : Bool

/-- `Event`: append while queueing, else process at once. -/
def Q.recv {ε} (q : Q ε) (e : ε) : Q ε :=
  if q.queueing then { q with waiting := q.waiting ++ [e] } else { q with done := q.done ++ [e] }

/-- `unqueueEvents`: process waiting events in order; `stops e = true` means processing `e` starts
    queueing again (a new reference must load), in which case the rest stays, in order, in front of
    anything that arrives later. -/
def Q.flush {ε} (stops : ε → Bool) : List ε → List ε → List ε × List ε × Bool
  | done, [] => (done, [], false)
  | done, e :: rest => if stops e then (done ++ [e], rest, true) else Q.flush stops (done ++ [e]) rest

def Q.unqueue {ε} (q : Q ε) (stops : ε → Bool) : Q ε :=
  let (d, w, qu) := Q.flush stops q.done q.waiting
  ⟨d, w, qu⟩

/-- A flush moves events from the front of the waiting list to the end of the processed ones, and
    stops queueing only when nothing is left. -/
theorem flush_spec {ε} (stops : ε → Bool) (done waiting : List ε) :
    (Q.flush stops done waiting).1 ++ (Q.flush stops done waiting).2.1 = done ++ waiting ∧
    ((Q.flush stops done waiting).2.2 = false → (Q.flush stops done waiting).2.1 = []) := by
  induction waiting generalizing done with
  | nil => simp [Q.flush]
  | cons e rest ih =>
    simp only [Q.flush]
    split
    · simp
    · simpa using ih (done ++ [e])

inductive Op (ε : Type) | recv (e : ε) | startQueueing | unqueue (stops : ε → Bool)

def Q.step {ε} (q : Q ε) : Op ε → Q ε
  | .recv e => q.recv e
  | .startQueueing => { q with queueing := true }
  | .unqueue stops => q.unqueue stops

def received {ε} : List (Op ε) → List ε
  | [] => []
  | .recv e :: ops => e :: received ops
  | _ :: ops => received ops

/-- One operation appends what it receives to processed ++ waiting (stated with the operations
    still to come, as the run needs it) and keeps "nothing waits unless queueing". -/
theorem step_spec {ε} (q : Q ε) (op : Op ε) (ops : List (Op ε)) (hw : q.queueing = false → q.waiting = []) :
    (q.step op).done ++ (q.step op).waiting ++ received ops = q.done ++ q.waiting ++ received (op :: ops) ∧
    ((q.step op).queueing = false → (q.step op).waiting = []) := by
  cases op with
  | recv e => cases hq : q.queueing <;> simp [Q.step, Q.recv, received, hq, hw]
  | startQueueing => simp [Q.step, received]
  | unqueue stops =>
    have h := flush_spec stops q.done q.waiting
    exact ⟨congrArg (· ++ received ops) h.1, h.2⟩

/-- For every interleaving of arriving events, starts of queueing and flushes (including flushes
    that restart queueing in the middle): processed ++ waiting = received, in order — no event is
    reordered, duplicated or lost, and while queueing nothing is processed. -/
theorem queue_preserves_order {ε} (ops : List (Op ε)) (q : Q ε)
    (hw : q.queueing = false → q.waiting = []) :
    let q' := ops.foldl Q.step q
    q'.done ++ q'.waiting = q.done ++ q.waiting ++ received ops ∧
    (q'.queueing = false → q'.waiting = []) := by
  induction ops generalizing q with
  | nil => simpa [received] using hw
  | cons op ops ih =>
    obtain ⟨h1, h2⟩ := step_spec q op ops hw
    obtain ⟨h3, h4⟩ := ih (q.step op) h2
    exact ⟨by rw [List.foldl_cons, h3, h1], h4⟩

end Resgate.EvQ
