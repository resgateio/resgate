import Resgate.Model.Diff

/-
Correctness of the collection diff (`lcs`) for ANY table: the produced remove/add events, applied
in order with the bounds checks of `handleEventRemove/Add`, turn `a` into a list pointwise
`Equal` to `b`.  Only minimality of the script depends on the table.
-/

namespace Resgate
namespace Lcs

variable {α : Type}

/-- Pointwise relation between two lists (core Lean has no `Forall₂`). -/
inductive AllRel (R : α → α → Prop) : List α → List α → Prop
  | nil : AllRel R [] []
  | cons {x y xs ys} : R x y → AllRel R xs ys → AllRel R (x :: xs) (y :: ys)

theorem AllRel.append {R : α → α → Prop} {xs ys xs' ys' : List α}
    (h1 : AllRel R xs ys) (h2 : AllRel R xs' ys') : AllRel R (xs ++ xs') (ys ++ ys') := by
  induction h1 with
  | nil => exact h2
  | cons hr _ ih => exact AllRel.cons hr ih

theorem AllRel.reverse {R : α → α → Prop} {xs ys : List α}
    (h : AllRel R xs ys) : AllRel R xs.reverse ys.reverse := by
  induction h with
  | nil => exact AllRel.nil
  | cons hr _ ih =>
    simp only [List.reverse_cons]
    exact ih.append (.cons hr .nil)

theorem applyCEvs_cons (l : List α) (e : CEv α) (es : List (CEv α)) :
    applyCEvs l (e :: es) = (applyCEv l e).bind fun l' => applyCEvs l' es := by
  rw [applyCEvs]
  cases applyCEv l e <;> rfl

theorem applyCEvs_append (l : List α) (e1 e2 : List (CEv α)) :
    applyCEvs l (e1 ++ e2) = (applyCEvs l e1).bind fun l' => applyCEvs l' e2 := by
  induction e1 generalizing l with
  | nil => rfl
  | cons e es ih =>
    simp only [List.cons_append, applyCEvs_cons]
    cases applyCEv l e with
    | none => rfl
    | some l' => exact ih l'

theorem applyCEv_remove {L : List α} {i : Int} (h : i = L.length) (x : α) (S : List α) :
    applyCEv (L ++ x :: S) (.remove i) = some (L ++ S) := by
  subst h
  simp [applyCEv, List.eraseIdx_append_of_length_le]
  omega

theorem applyCEv_add {L : List α} {i : Int} (h : i = L.length) (v : α) (S : List α) :
    applyCEv (L ++ S) (.add i v) = some (L ++ v :: S) := by
  subst h
  have : (L ++ S).insertIdx L.length v = L ++ v :: S := List.modifyTailIdx_add (List.cons v) 0 L S
  simp [applyCEv, this]
  omega

/-- The list the operations of the back-track start from (`src`) and the one they lead to (`tgt`).
    They are in visit order: the first one concerns the last element. -/
def src : List (AOp α) → List α
  | [] => []
  | .keep x :: ops => src ops ++ [x]
  | .add _ :: ops => src ops
  | .rem x :: ops => src ops ++ [x]

def tgt : List (AOp α) → List α
  | [] => []
  | .keep x :: ops => tgt ops ++ [x]
  | .add v :: ops => tgt ops ++ [v]
  | .rem _ :: ops => tgt ops

theorem backtrack_src (eq : α → α → Bool) (c : Nat → Nat → Int) (ra rb : List α) :
    src (backtrack eq c ra rb) = ra.reverse := by
  fun_induction backtrack eq c ra rb <;> simp [src, *]

theorem backtrack_tgt (eq : α → α → Bool) (hrefl : ∀ x, eq x x = true) (c : Nat → Nat → Int)
    (ra rb : List α) :
    AllRel (fun x y => eq x y = true) (tgt (backtrack eq c ra rb)) rb.reverse := by
  fun_induction backtrack eq c ra rb with
  | case1 => exact .nil
  | case2 y rb ih => simpa [tgt] using ih.append (.cons (hrefl y) .nil)
  | case3 x ra ih => exact ih
  | case4 x ra y rb h ih => simpa [tgt] using ih.append (.cons h .nil)
  | case5 x ra y rb h1 h2 ih => simpa [tgt] using ih.append (.cons (hrefl y) .nil)
  | case6 x ra y rb h1 h2 ih => exact ih

theorem walk_lengths (s : Nat) (ops : List (AOp α)) (i r : Nat) :
    (src ops).length + (walk s ops i r).2.length
      = (tgt ops).length + (walk s ops i r).1.length := by
  induction ops generalizing i r with
  | nil => rfl
  | cons o ops ih => cases o <;> simp +arith [walk, src, tgt, ih]

/-- The script of `lcsWith` for the operations `ops`, run on `P ++ src ops ++ S`, stays in range
    and yields `P ++ tgt ops ++ S`.  For `rem x :: ops` the remove comes first and hits `x`, the
    last element of `src`; for `add v :: ops` the add comes last, when `src ops` has become
    `tgt ops`, and has to land right after that.  Stated for the loop in any state `(i, r)` with
    `k` adds collected so far, and for any numbers `R` of removes and `A` of adds in the add index
    `idx - R + r + (A - 1) - k` of the Go code for which an add collected now lands at the end of
    `tgt ops`: that is `h`, which each step keeps and which at the start is `walk_lengths`. -/
theorem walk_applies (P : List α) (ops : List (AOp α)) (S : List α) (r k R A : Nat)
    (h : (src ops).length + r + A = (tgt ops).length + R + k) :
    applyCEvs (P ++ src ops ++ S)
        ((walk P.length ops (src ops).length r).1.map CEv.remove ++
          (((walk P.length ops (src ops).length r).2.zipIdx k).reverse.map fun p =>
            CEv.add (p.1.2.1 - (R : Int) + p.1.2.2 + ((A : Int) - 1) - (p.2 : Int)) p.1.1))
      = some (P ++ tgt ops ++ S) := by
  induction ops generalizing S r k with
  | nil => rfl
  | cons o ops ih =>
    cases o with
    | keep x =>
      simp only [src, tgt, List.length_append, List.length_singleton] at h
      simpa [src, tgt, walk] using ih (x :: S) r k (by omega)
    | rem x =>
      simp only [src, tgt, List.length_append, List.length_singleton] at h
      simp only [src, tgt, walk, List.length_append, List.length_singleton, Nat.add_sub_cancel,
        List.map_cons, List.cons_append, ← List.append_assoc]
      rw [← List.append_cons, applyCEvs_cons,
        applyCEv_remove (by rw [List.length_append, Nat.add_comm]) x S]
      exact ih S (r + 1) k (by omega)
    | add v =>
      simp only [src, tgt, List.length_append, List.length_singleton] at h
      simp only [src, tgt, walk, List.zipIdx_cons, List.reverse_cons, List.map_append,
        List.map_cons, List.map_nil]
      rw [← List.append_assoc, applyCEvs_append, ih S r (k + 1) (by omega), Option.bind_some,
        applyCEvs_cons, applyCEv_add (by rw [List.length_append]; omega) v S]
      simp [applyCEvs]

/-- `walk_applies` at the start of the loop. `emitAdds` unfolds to the add script of `walk_applies`
    with `R` the number of removes and `A` the number of adds, which unification reads off the
    statement. -/
theorem script_applies (P : List α) (ops : List (AOp α)) (S : List α) :
    applyCEvs (P ++ src ops ++ S)
      ((walk P.length ops (src ops).length 0).1.map CEv.remove ++
        emitAdds ((walk P.length ops (src ops).length 0).1.length : Int)
          (walk P.length ops (src ops).length 0).2)
      = some (P ++ tgt ops ++ S) :=
  walk_applies P ops S 0 0 _ _ (walk_lengths P.length ops (src ops).length 0)

theorem commonPrefix_le (eq : α → α → Bool) (a b : List α) : commonPrefix eq a b ≤ a.length := by
  fun_induction commonPrefix eq a b <;> simp [*]

theorem commonPrefix_rel (eq : α → α → Bool) (a b : List α) :
    AllRel (fun x y => eq x y = true) (a.take (commonPrefix eq a b))
      (b.take (commonPrefix eq a b)) := by
  fun_induction commonPrefix eq a b with
  | case1 x xs y ys h ih => exact .cons h ih
  | case2 => exact .nil
  | case3 => exact .nil

theorem commonSuffix_rel (eq : α → α → Bool) (a b : List α) :
    AllRel (fun x y => eq x y = true) (a.drop (a.length - commonPrefix eq a.reverse b.reverse))
      (b.drop (b.length - commonPrefix eq a.reverse b.reverse)) := by
  simpa [List.take_reverse] using (commonPrefix_rel eq a.reverse b.reverse).reverse

theorem commonPrefix_of_rel (eq : α → α → Bool) {a b : List α}
    (h : AllRel (fun x y => eq x y = true) a b) :
    commonPrefix eq a b = a.length ∧ commonPrefix eq a b = b.length := by
  induction h with
  | nil => exact ⟨rfl, rfl⟩
  | cons hr _ ih =>
    rw [commonPrefix, if_pos hr]
    exact ⟨congrArg (· + 1) ih.1, congrArg (· + 1) ih.2⟩

/-- C12 `lcs_applies`: for every pair of lists and EVERY table, the derived events apply with all
    indexes in range and yield a list pointwise `Equal` to the new one. -/
theorem lcs_applies (eq : α → α → Bool) (hrefl : ∀ x, eq x x = true)
    (tbl : List α → List α → Nat → Nat → Int) (a b : List α) :
    ∃ r, applyCEvs a (lcsWith eq tbl a b) = some r ∧ AllRel (fun x y => eq x y = true) r b := by
  unfold lcsWith
  extract_lets s a1 b1 t aa bb ops w
  have hle : s ≤ a.length := commonPrefix_le eq a b
  have hpre := commonPrefix_rel eq a b
  split
  · next h =>
    rw [List.take_of_length_le (Nat.le_of_eq h.1.symm),
      List.take_of_length_le (Nat.le_of_eq h.2.symm)] at hpre
    exact ⟨a, rfl, hpre⟩
  · have trim (l : List α) (n : Nat) : l.take s ++ (l.drop s).take n ++ (l.drop s).drop n = l := by
      rw [List.append_assoc, List.take_append_drop, List.take_append_drop]
    have hs := script_applies (a.take s) ops (a1.drop (a1.length - t))
    have hmid := backtrack_tgt eq hrefl (tbl aa bb) aa.reverse bb.reverse
    rw [backtrack_src, List.reverse_reverse, List.length_take_of_le hle, trim] at hs
    rw [List.reverse_reverse] at hmid
    refine ⟨_, hs, ?_⟩
    rw [← trim b (b1.length - t)]
    exact (hpre.append hmid).append (commonSuffix_rel eq a1 b1)

/-- C12: unchanged content yields no event. -/
theorem lcs_nil_of_equal (eq : α → α → Bool) (tbl : List α → List α → Nat → Nat → Int)
    {a b : List α} (h : AllRel (fun x y => eq x y = true) a b) : lcsWith eq tbl a b = [] := by
  unfold lcsWith
  exact if_pos (commonPrefix_of_rel eq h)

end Lcs
end Resgate
