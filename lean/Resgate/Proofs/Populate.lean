import Resgate.Gw.Populate
import Resgate.Proofs.Assoc

/-
The vocabulary of the closure theorems about the depth-first traversals (`populateF` here, the two
passes of the collector in `Proofs/Collector.lean`), the one lemma about their fold over the
children, and the shape of one call of `populateF`.
-/

namespace Resgate

/-- The fold of a fuel-bounded depth-first traversal over the children of a node: every step `and`s
    "the fuel sufficed" into the flag `ok` of the accumulator.  A flag still set at the end is set at
    the start and after every step; the accumulator then moved along the preorder `R`, and what its
    own step established for a child (`Q`, which `R` keeps) still holds at the end: later siblings
    only add. -/
theorem foldl_flag {α β} {g : α → β → α} {ok : α → Bool} {R : α → α → Prop} {Q : β → α → Prop}
    (refl : ∀ a, R a a) (trans : ∀ {a b c}, R a b → R b c → R a c)
    (keep : ∀ {a b x}, R a b → Q x a → Q x b)
    (step : ∀ a x, ok (g a x) = true → ok a = true ∧ R a (g a x) ∧ Q x (g a x))
    (l : List β) (a : α) (h : ok (l.foldl g a) = true) :
    ok a = true ∧ R a (l.foldl g a) ∧ ∀ x ∈ l, Q x (l.foldl g a) := by
  induction l generalizing a with
  | nil => exact ⟨h, refl a, nofun⟩
  | cons x l ih =>
    obtain ⟨h1, hR, hQ⟩ := ih (g a x) h
    obtain ⟨h0, hR0, hQ0⟩ := step a x h1
    exact ⟨h0, trans hR0 hR, List.forall_mem_cons.mpr ⟨keep hR hQ0, hQ⟩⟩

end Resgate

namespace Resgate.Gw

/-- subscription object `u` of a connection -/
def st (c : Conn) (u : Nat) : Sub := tget c.objs u

theorem st_set (c : Conn) (uid v : Nat) (s' : Sub) :
    st { c with objs := tset c.objs uid s' } v = if v = uid then s' else st c v := tget_tset ..

/-- `c'` extends `c`: nothing delivered is forgotten, and the reference tables and error states of
    all subscriptions are the same. -/
structure Ext (c c' : Conn) : Prop where
  refs : ∀ v, (st c' v).refs = (st c v).refs
  err : ∀ v, (st c' v).error = (st c v).error
  vis : ∀ v, (st c v).visited = true → (st c' v).visited = true

/-- delivered or delivered as an error placeholder -/
def Sub.covered (s : Sub) : Prop := s.visited = true ∨ s.error.isSome = true

theorem mem_insertRef (x z : String × Nat × Nat) (l : List (String × Nat × Nat)) :
    z ∈ insertRef x l ↔ z = x ∨ z ∈ l := by
  induction l with
  | nil => simp [insertRef]
  | cons y ys ih =>
    unfold insertRef
    split
    · simp
    · simp [ih, or_left_comm]

theorem mem_sortedRefs (s : Sub) (z : String × Nat × Nat) : z ∈ sortedRefs s ↔ z ∈ s.refs := by
  unfold sortedRefs
  induction s.refs with
  | nil => simp
  | cons x xs ih => rw [List.foldr_cons, mem_insertRef, ih, List.mem_cons]

/-- Closure: every subscription newly placed in the set between `c` and `c'` has all its
    references covered in `c'`. -/
def Closed (c c' : Conn) : Prop :=
  ∀ v, (st c v).visited = false → (st c' v).visited = true →
    ∀ ch ∈ sortedRefs (st c v), (st c' ch.2.1).covered

structure Good (c c' : Conn) : Prop where
  ext : Ext c c'
  closed : Closed c c'

def bump (c : Conn) (uid : Nat) (ind : Bool) : Conn :=
  if ind then
    { c with objs := tset c.objs uid { st c uid with indirectsent := (st c uid).indirectsent + 1 } }
  else c

def rootSet (s : Sub) (r : RSet) : RSet :=
  match s.typ with
  | .collection => { r with colls := sset r.colls s.rid s.coll }
  | .model => { r with models := sset r.models s.rid s.model }
  | _ => r

/-- One call of `populateF` once the root's count of indirect deliveries is bumped.  (The equation
    Lean derives for `populateF` has every `let` substituted, the record updates spelt out field by
    field; `populateF_succ` keeps the pieces named.) -/
def populateBody (fuel : Nat) (c : Conn) (uid : Nat) (r : RSet) : Conn × RSet × Bool :=
  if (st c uid).visited then (c, r, true)
  else match (st c uid).error with
    | some e => (c, { r with errors := sset r.errors (st c uid).rid e }, true)
    | none =>
      (sortedRefs (st c uid)).foldl
        (fun acc ch =>
          let res := populateF fuel acc.1 ch.2.1 acc.2.1 true
          (res.1, res.2.1, acc.2.2 && res.2.2))
        ({ c with objs := tset c.objs uid { st c uid with state := .toSend } }, rootSet (st c uid) r, true)

theorem populateF_succ (fuel : Nat) (c : Conn) (uid : Nat) (r : RSet) (ind : Bool) :
    populateF (fuel + 1) c uid r ind = populateBody fuel (bump c uid ind) uid r := by
  cases ind <;> rfl

end Resgate.Gw
