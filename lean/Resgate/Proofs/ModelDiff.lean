import Resgate.Proofs.KV

/-
`modelDiff_applies`: the change event derived by `processResetModel`, applied by
`handleEventChange`, turns the cached model into the fetched one (key by key, up to `Equal`).
Both are characterised by what `kvGet` finds under a key.
-/

namespace Resgate

variable {κ α : Type} [DecidableEq κ]

/-- The first entry of a change leads to a model that differs from `m` under its key only: the
    key is gone if the entry deletes it; it keeps a value `Equal` to the one in the entry, and
    gets that one otherwise. -/
theorem applyChange_cons (eq : α → α → Bool) (m : KV κ α) (k' : κ) (c : Option α)
    (ps : KV κ (Option α)) :
    ∃ m', (applyChange eq m ((k', c) :: ps)).1 = (applyChange eq m' ps).1 ∧
      ∀ k, kvGet m' k =
        if k' = k then c.map fun v =>
          match kvGet m k' with
          | some ov => if eq ov v then ov else v
          | none => v
        else kvGet m k := by
  have hself (k) : kvGet m k = if k' = k then kvGet m k' else kvGet m k := by
    split
    · next h => rw [h]
    · rfl
  cases c with
  | none =>
    rw [applyChange]
    cases hm : kvGet m k' with
    | none => exact ⟨m, rfl, by rwa [hm] at hself⟩
    | some ov => exact ⟨kvErase m k', rfl, kvGet_kvErase m k'⟩
  | some v =>
    rw [applyChange, Option.map_some]
    cases hm : kvGet m k' with
    | none => exact ⟨kvSet m k' v, rfl, fun k => kvGet_kvSet m k' k v⟩
    | some ov =>
      dsimp only
      cases he : eq ov v with
      | true => exact ⟨m, rfl, by rw [hm] at hself; exact hself⟩
      | false => exact ⟨kvSet m k' v, rfl, fun k => kvGet_kvSet m k' k v⟩

/-- What `handleEventChange` leaves under each key, for a change that names no key twice. -/
theorem applyChange_get (eq : α → α → Bool) (ch : KV κ (Option α)) (m : KV κ α)
    (hnd : (ch.map (·.1)).Nodup) (k : κ) :
    kvGet (applyChange eq m ch).1 k =
      match kvGet ch k with
      | none => kvGet m k
      | some c => c.map fun v =>
        match kvGet m k with
        | some ov => if eq ov v then ov else v
        | none => v := by
  induction ch generalizing m with
  | nil => rfl
  | cons p ps ih =>
    rw [List.map_cons, List.nodup_cons, ← kvGet_eq_none_iff] at hnd
    obtain ⟨m', hm', hget⟩ := applyChange_cons eq m p.1 p.2 ps
    rw [hm', ih m' hnd.2, kvGet_cons, hget]
    by_cases h : p.1 = k
    · subst h
      simp [hnd.1]
    · simp [h]

/-- The change derived by `processResetModel` before pruning: every key of the new model with
    its value, and a delete for every key of the old model that the new one lacks. -/
def withDeletes (old new : KV κ α) : KV κ (Option α) :=
  new.map (fun p => (p.1, some p.2)) ++
    (old.filter (fun p => (kvGet new p.1).isNone)).map (fun p => (p.1, none))

theorem modelDiff_eq (eq : α → α → Bool) (old new : KV κ α) :
    modelDiff eq old new = (withDeletes old new).filter fun p =>
      match p.2, kvGet old p.1 with
      | some v, some ov => !eq v ov
      | _, _ => true := rfl

theorem withDeletes_nodup (old new : KV κ α) (ho : (old.map (·.1)).Nodup)
    (hn : (new.map (·.1)).Nodup) : ((withDeletes old new).map (·.1)).Nodup := by
  simp only [withDeletes, List.map_append, List.map_map, Function.comp_def]
  refine List.nodup_append.mpr ⟨hn, (List.filter_sublist.map _).nodup ho, ?_⟩
  rintro a ha b hb rfl
  obtain ⟨q, hq, rfl⟩ := List.mem_map.mp hb
  have := (List.mem_filter.mp hq).2
  rw [Option.isNone_iff_eq_none, kvGet_eq_none_iff] at this
  exact this ha

theorem modelDiff_nodup (eq : α → α → Bool) (old new : KV κ α) (ho : (old.map (·.1)).Nodup)
    (hn : (new.map (·.1)).Nodup) : ((modelDiff eq old new).map (·.1)).Nodup :=
  (List.filter_sublist.map _).nodup (withDeletes_nodup old new ho hn)

/-- The change derived by `processResetModel`, key by key: a key of the new model comes with its
    value unless the old model holds an `Equal` one; a key of the old model alone is deleted. -/
theorem kvGet_modelDiff (eq : α → α → Bool) (old new : KV κ α) (ho : (old.map (·.1)).Nodup)
    (hn : (new.map (·.1)).Nodup) (k : κ) :
    kvGet (modelDiff eq old new) k =
      match kvGet new k with
      | some v => if (kvGet old k).any (eq v) then none else some (some v)
      | none => (kvGet old k).map fun _ => none := by
  rw [modelDiff_eq, kvGet_filter_nodup _ _ (withDeletes_nodup old new ho hn), withDeletes,
    kvGet_append, kvGet_map, kvGet_map fun _ => none,
    kvGet_filter_key fun k => (kvGet new k).isNone]
  dsimp only
  cases kvGet new k with
  | none => cases kvGet old k <;> rfl
  | some v =>
    cases kvGet old k with
    | none => rfl
    | some ov =>
      show (if (!eq v ov) = true then some (some v) else none) = if eq v ov = true then none else _
      cases eq v ov <;> rfl

/-- **modelDiff_applies.** For every cached model and every fetched model (keys distinct — they are
    Go maps), applying the derived change leaves, under every key, a value `Equal` to the fetched
    one, and no key the fetched model lacks. -/
theorem modelDiff_applies (eq : α → α → Bool) (hrefl : ∀ x, eq x x = true)
    (hsymm : ∀ x y, eq x y = eq y x) (old new : KV κ α)
    (ho : (old.map (·.1)).Nodup) (hn : (new.map (·.1)).Nodup) (k : κ) :
    match kvGet (applyChange eq old (modelDiff eq old new)).1 k, kvGet new k with
    | none, none => True
    | some r, some v => eq v r = true
    | _, _ => False := by
  rw [applyChange_get eq _ old (modelDiff_nodup eq old new ho hn), kvGet_modelDiff eq old new ho hn]
  cases kvGet new k with
  | none => cases kvGet old k <;> trivial
  | some v =>
    cases kvGet old k with
    | none => exact hrefl v
    | some ov => cases he : eq v ov <;> simp [he, hsymm ov v, hrefl]

end Resgate
