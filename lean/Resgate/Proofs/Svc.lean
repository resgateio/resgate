import Resgate.Model.Svc

namespace Resgate.Svc

/-- Well-formedness: stopping implies running (a Stop in progress belongs to a started service). -/
def WF (s : S) : Prop := (s.stopping = true → s.running = true) ∧ (s.running = false → s.conns = 0)

theorem wf_init : WF {} := by simp [WF]

theorem step_wf (s : S) (op : Op) (h : WF s) : WF (step s op).1 := by
  fun_cases step s op <;> simp_all [WF]

/-- No connection is created while the service is stopped or stopping. -/
theorem connect_refused (s : S) (h : s.running = false ∨ s.stopping = true) :
    step s .connect = (s, .refused) := by
  simp only [step]
  rcases h with h | h <;> simp [h]

/-- Stop is idempotent: a second Stop while one is in progress, or on a stopped service, does nothing. -/
theorem stop_idempotent (s : S) (c : Option String) (h : s.running = false ∨ s.stopping = true) :
    step s (.stopBegin c) = (s, .stopNoop) := by
  simp only [step]
  rcases h with h | h <;> simp [h]

/-- Completing a Stop reports the cause it was started with, leaves no connection, and the
    service can be started again. -/
theorem stop_completes (s : S) (h : s.stopping = true) :
    (step s .stopEnd).2 = .stopped s.cause s.conns ∧
    (step s .stopEnd).1 = {} ∧
    (step (step s .stopEnd).1 .start).2 = .started := by
  simp [step, h]

def nStopped : List Out → Nat
  | [] => 0
  | .stopped _ _ :: os => nStopped os + 1
  | _ :: os => nStopped os

def nStopStarted : List Out → Nat
  | [] => 0
  | .stopStarted :: os => nStopStarted os + 1
  | _ :: os => nStopStarted os

def b2n (b : Bool) : Nat := if b then 1 else 0

/-- Only the first section of a Stop sets `stopping` and only the second clears it, each with its
    own output; every other step leaves the flag alone and reports neither. -/
theorem step_balance (s : S) (op : Op) :
    nStopped [(step s op).2] + b2n (step s op).1.stopping = nStopStarted [(step s op).2] + b2n s.stopping := by
  fun_cases step s op <;> simp_all [nStopped, nStopStarted, b2n]

theorem nStopped_cons (o : Out) (os : List Out) : nStopped (o :: os) = nStopped os + nStopped [o] := by
  cases o <;> rfl

theorem nStopStarted_cons (o : Out) (os : List Out) :
    nStopStarted (o :: os) = nStopStarted os + nStopStarted [o] := by
  cases o <;> rfl

/-- For every sequence of operations: exactly one stop value per Stop that was started and has
    completed (never two for one Stop), whatever else arrives in between. -/
theorem one_value_per_stop (s : S) (ops : List Op) :
    nStopped (run s ops).2 + b2n (run s ops).1.stopping = nStopStarted (run s ops).2 + b2n s.stopping := by
  induction ops generalizing s with
  | nil => rfl
  | cons op ops ih =>
    simp only [run]
    have h1 := ih (step s op).1
    have h2 := step_balance s op
    rw [nStopped_cons, nStopStarted_cons]
    omega

end Resgate.Svc
