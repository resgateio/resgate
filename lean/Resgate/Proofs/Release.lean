import Resgate.Proofs.Assoc
import Resgate.Gw.Cache

namespace Resgate.Gw

theorem tget_unregisterRes (e : Entry) (rs r' : Nat) :
    tget (e.unregisterRes rs).ress r' =
      if r' = rs then { tget e.ress rs with links := [] } else tget e.ress r' := by
  simp only [Entry.unregisterRes, Entry.withIdx, tget_tset]

/-- **The cache side of a release** (`ResourceSubscription.Unsubscribe`), on the resources: exactly
    that subscriber leaves exactly that resource, which is unregistered if it is a query resource
    left without subscribers; its content and every other resource are untouched. -/
theorem tget_dropSub (e : Entry) (rs r' : Nat) (sub : SubRef) :
    tget (e.dropSub rs sub).ress r' =
      let r := tget e.ress rs
      if r' = rs then
        { r with subs := r.subs.filter (· != sub),
                 links := if r.query != "" && (r.subs.filter (· != sub)).isEmpty then [] else r.links }
      else tget e.ress r' := by
  unfold Entry.dropSub
  dsimp only
  split
  · simp only [tget_unregisterRes, tget_tset, if_true]
    split <;> rfl
  · simp only [tget_tset]

/-- ... and outside the resources and the alias index nothing changes: queue, locks and count stay
    (the count is given back by `removeCount 1` right after, C09). -/
theorem dropSub_frame (e : Entry) (rs : Nat) (sub : SubRef) :
    ∃ ress x, e.dropSub rs sub = { e with ress := ress }.withIdx x := by
  refine ⟨(e.dropSub rs sub).ress, (e.dropSub rs sub).idx, ?_⟩
  unfold Entry.dropSub
  dsimp only
  split <;> rfl

/-- The count part: one use is given back. -/
theorem removeCountPure_one (count : Int) (pending : Bool) : (removeCountPure count 1 pending).1 = count - 1 := by
  unfold removeCountPure; dsimp only; split <;> rfl

/-- **Every user releases at most once**: once a subscriber has been released from a resource, a
    second release of the same subscriber (a delete event or error answer it had not processed yet,
    followed by its own dispose; the repaired `ResourceSubscription.Unsubscribe`) finds it gone and
    gives nothing back. -/
theorem release_twice_is_once (e : Entry) (rs : Nat) (sub : SubRef) :
    (e.dropSub rs sub).release rs sub = none := by
  simp [Entry.release, tget_dropSub]

theorem isSome_release (e : Entry) (rs : Nat) (sub : SubRef) :
    (e.release rs sub).isSome = (tget e.ress rs).subs.contains sub := by
  unfold Entry.release
  cases h : (tget e.ress rs).subs.contains sub <;> simp

end Resgate.Gw
