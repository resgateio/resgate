import Resgate.Model.Diff

/-
What `kvGet` finds in an association list built with `kvSet`, `kvErase`, `map`, `filter`, `++`.
Serves the model diff (`Proofs/ModelDiff.lean`) and, at `κ := Bytes`, the header tables of
`Model/Http.lean` (`hdrGet`, `hdrSet` are `kvGet`, `kvSet` by definition).
-/

namespace Resgate

variable {κ α : Type} [DecidableEq κ]

theorem kvGet_nil (k : κ) : kvGet ([] : KV κ α) k = none := rfl

theorem kvGet_cons (p : κ × α) (m : KV κ α) (k : κ) :
    kvGet (p :: m) k = if p.1 = k then some p.2 else kvGet m k := by
  unfold kvGet
  by_cases h : p.1 = k <;> simp [h]

theorem kvGet_append (a b : KV κ α) (k : κ) : kvGet (a ++ b) k = (kvGet a k).or (kvGet b k) := by
  simp [kvGet, Option.map_or]

theorem kvGet_map {β : Type} (f : α → β) (m : KV κ α) (k : κ) :
    kvGet (m.map fun p => (p.1, f p.2)) k = (kvGet m k).map f := by
  simp [kvGet, List.find?_map, Function.comp_def]

theorem kvGet_eq_none_iff {m : KV κ α} {k : κ} : kvGet m k = none ↔ k ∉ m.map (·.1) := by
  simp only [kvGet, Option.map_eq_none_iff, List.find?_eq_none, decide_eq_true_eq, List.mem_map,
    not_exists, not_and]

theorem kvGet_some_mem {m : KV κ α} {k : κ} {v : α} (h : kvGet m k = some v) : k ∈ m.map (·.1) :=
  Decidable.not_not.mp (mt kvGet_eq_none_iff.mpr (by simp [h]))

theorem kvGet_filter_key (q : κ → Bool) (m : KV κ α) (k : κ) :
    kvGet (m.filter fun p => q p.1) k = if q k then kvGet m k else none := by
  induction m with
  | nil => simp [kvGet_nil]
  | cons p m ih =>
    by_cases hk : p.1 = k
    · subst hk
      cases hq : q p.1 <;> simp [kvGet_cons, hq, ih]
    · cases hq : q p.1 <;> simp [kvGet_cons, hq, hk, ih]

theorem kvGet_filter_nodup (P : κ × α → Bool) (m : KV κ α) (hnd : (m.map (·.1)).Nodup) (k : κ) :
    kvGet (m.filter P) k = (kvGet m k).filter fun v => P (k, v) := by
  induction m with
  | nil => rfl
  | cons p m ih =>
    rw [List.map_cons, List.nodup_cons, ← kvGet_eq_none_iff] at hnd
    by_cases hk : p.1 = k
    · subst hk
      cases hp : P p <;> simp [Option.filter_some, kvGet_cons, hp, ih hnd.2, hnd.1]
    · cases hp : P p <;> simp [kvGet_cons, hp, hk, ih hnd.2]

theorem kvGet_kvErase (m : KV κ α) (k k' : κ) :
    kvGet (kvErase m k) k' = if k = k' then none else kvGet m k' := by
  rw [kvErase, kvGet_filter_key (· ≠ k)]
  by_cases h : k = k' <;> simp [h, Ne.symm]

theorem kvGet_kvSet (m : KV κ α) (k k' : κ) (v : α) :
    kvGet (kvSet m k v) k' = if k = k' then some v else kvGet m k' := by
  rw [kvSet, kvGet_cons, kvGet_kvErase]
  split <;> rfl

end Resgate
