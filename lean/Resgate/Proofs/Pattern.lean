import Resgate.Model.Pattern

namespace Resgate

/-- What the loop does after consuming one byte of both strings outside a `*` scan. -/
def mNext (ps ss : Bytes) : Option Bool :=
  if ss.isEmpty then some ps.isEmpty else if ps.isEmpty then some false else matchAux false ps ss

/-- … after consuming one non-dot byte of the name inside a `*` scan. -/
def mStarNext (ps ss : Bytes) : Option Bool :=
  if ss.isEmpty then some ps.isEmpty else matchAux true ps ss

/-- … when the `*` scan reaches a dot. -/
def mDot (ps ss : Bytes) : Option Bool :=
  match ps with
  | [] => some false
  | _ :: ps' => mNext ps' ss

@[simp] theorem mNext_nil (ps : Bytes) : mNext ps [] = some ps.isEmpty := rfl

@[simp] theorem mNext_nil_cons (sc : Nat) (ss : Bytes) : mNext [] (sc :: ss) = some false := rfl

@[simp] theorem mNext_cons_cons (pc : Nat) (ps : Bytes) (sc : Nat) (ss : Bytes) :
    mNext (pc :: ps) (sc :: ss) = matchAux false (pc :: ps) (sc :: ss) := rfl

@[simp] theorem mStarNext_nil (ps : Bytes) : mStarNext ps [] = some ps.isEmpty := rfl

@[simp] theorem mStarNext_cons (ps : Bytes) (sc : Nat) (ss : Bytes) :
    mStarNext ps (sc :: ss) = matchAux true ps (sc :: ss) := rfl

theorem matchAux_scan (ps : Bytes) (sc : Nat) (ss : Bytes) :
    matchAux true ps (sc :: ss) = if sc = cDot then mDot ps ss else mStarNext ps ss := by
  cases ps <;> rfl

theorem matchAux_cons (pc : Nat) (ps : Bytes) (sc : Nat) (ss : Bytes) :
    matchAux false (pc :: ps) (sc :: ss) =
      if pc = cGt then some true
      else if pc = cStar then matchAux true ps (sc :: ss)
      else if sc ≠ pc then some false else mNext ps ss := by
  cases ps <;> rfl

theorem matchAux_gt (ps : Bytes) (sc : Nat) (ss : Bytes) :
    matchAux false (cGt :: ps) (sc :: ss) = some true := by
  rw [matchAux_cons, if_pos rfl]

theorem matchAux_star (ps : Bytes) (sc : Nat) (ss : Bytes) :
    matchAux false (cStar :: ps) (sc :: ss) = matchAux true ps (sc :: ss) := by
  rw [matchAux_cons, if_neg (by decide), if_pos rfl]

theorem matchAux_lit {pc : Nat} (hg : pc ≠ cGt) (hs : pc ≠ cStar) (ps : Bytes) (sc : Nat)
    (ss : Bytes) :
    matchAux false (pc :: ps) (sc :: ss) = if sc = pc then mNext ps ss else some false := by
  rw [matchAux_cons, if_neg hg, if_neg hs, ite_not]

theorem matchAux_dot (ps : Bytes) (sc : Nat) (ss : Bytes) :
    matchAux false (cDot :: ps) (sc :: ss) = if sc = cDot then mNext ps ss else some false :=
  matchAux_lit (by decide) (by decide) ps sc ss

/-- The loop of `Match` never indexes out of range: the outer loop and the `*` scan both test that
    neither suffix is exhausted before they go round again, on a shorter name. -/
theorem mNext_total (ps ss : Bytes) :
    (mNext ps ss).isSome = true ∧ (mStarNext ps ss).isSome = true := by
  induction ss generalizing ps with
  | nil => exact ⟨rfl, rfl⟩
  | cons sc ss ih =>
    have scan (ps : Bytes) : (matchAux true ps (sc :: ss)).isSome = true := by
      rw [matchAux_scan]
      cases ps <;> simp [apply_ite Option.isSome, mDot, ih]
    refine ⟨?_, scan ps⟩
    cases ps with
    | nil => rfl
    | cons pc ps => simp [matchAux_cons, apply_ite Option.isSome, scan, ih]

/-- C12/C15 `match_total`: `Match` never panics, for any pattern value and any name. -/
theorem match_total (p : Pattern) (s : Bytes) : (p.matches? s).isSome = true := by
  -- the three early exits answer; the loop is entered at its head, the pattern not empty and the
  -- name at least as long
  simp only [Pattern.matches?, apply_ite Option.isSome, Option.isSome_some, ite_eq_left_iff]
  intro h1 _ h3
  have hs : ¬s.isEmpty = true := by
    rw [List.isEmpty_iff] at h1 ⊢
    rintro rfl
    exact h3 (List.length_pos_iff.mpr h1)
  have := (mNext_total p.pattern s).1
  rwa [mNext, if_neg hs, if_neg h1] at this

theorem invalid_matches_nothing (s : Bytes) : Pattern.invalid.matches s = false := by
  simp [Pattern.matches, Pattern.matches?, Pattern.invalid]

end Resgate
