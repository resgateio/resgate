import Resgate.Model.Encode
import Resgate.Proofs.Split

/-
`PathToRID ∘ RIDToPath = id`: every href the gateway prints leads back to the resource it names.
-/

namespace Resgate.Enc
open Resgate

theorem hexVal_hexU : ∀ n < 16,
    hexVal? (Char.ofNat (hexU n)) = some n ∧ hexU n < 128 ∧ hexU n ≠ cSlash ∧ hexU n ≠ cDot := by
  decide

/-- What `PathToRID` needs of one escaped byte: the escape holds no slash, no dot unless the byte
    is one, and unescapes to the byte. -/
theorem escB_spec (b : Nat) (hb : b < 256) :
    cSlash ∉ escB b ∧ (b ≠ cDot → cDot ∉ escB b) ∧
      ∀ s, unescapeB (escB b ++ s) = (unescapeB s).map (b :: ·) := by
  unfold escB
  split
  · next hu =>
    have hs : b ≠ cSlash := by rintro rfl; exact absurd hu (by decide)
    have hp : b ≠ cPct := by rintro rfl; exact absurd hu (by decide)
    refine ⟨?_, fun hd => ?_, fun s => ?_⟩
    · simpa using hs.symm
    · simpa using hd.symm
    · exact unescapeB.eq_4 b s (fun _ _ _ e _ => hp e) hp   -- the last clause: `b` is not `%`
  · obtain ⟨h1, l1, s1, d1⟩ := hexVal_hexU (b / 16) (Nat.div_lt_of_lt_mul hb)
    obtain ⟨h2, l2, s2, d2⟩ := hexVal_hexU (b % 16) (Nat.mod_lt b (by decide))
    refine ⟨?_, fun _ => ?_, fun s => ?_⟩
    · simpa using ⟨by decide, s1.symm, s2.symm⟩
    · simpa using ⟨by decide, d1.symm, d2.symm⟩
    · refine (unescapeB.eq_2 _ _ s).trans ?_   -- the clause for `%XX`
      rw [h1, h2]
      cases unescapeB s <;> simp [l1, l2, Nat.div_add_mod']

/-- The escaped form with dots turned into slashes. -/
def escPath (rid : Bytes) : Bytes := (rid.flatMap escB).map fun b => if b = cDot then cSlash else b

theorem escPath_nil : escPath [] = [] := rfl

theorem escPath_cons (b : Nat) (rest : Bytes) (hb : b < 256) :
    escPath (b :: rest) = (if b = cDot then [cSlash] else escB b) ++ escPath rest := by
  rw [escPath, List.flatMap_cons, List.map_append]
  split
  · next h => subst h; rfl
  · next h =>
    rw [List.map_congr_left fun c hc => if_neg (ne_of_mem_of_not_mem hc ((escB_spec b hb).2.1 h)), List.map_id']
    rfl

theorem mapM_unescape_escPath (rid : Bytes) (hb : ∀ b ∈ rid, b < 256) :
    (splitOn cSlash (escPath rid)).mapM unescapeB = some (splitOn cDot rid) := by
  induction rid with
  | nil => rfl
  | cons b rest ih =>
    have ih := ih fun x hx => hb x (List.mem_cons_of_mem _ hx)
    have hb := hb b List.mem_cons_self
    rw [escPath_cons b rest hb]
    split
    · next hd =>
      subst hd
      rw [List.singleton_append, splitOn_cons_sep, splitOn_cons_sep, List.mapM_cons, ih]
      rfl
    · next hd =>
      obtain ⟨hs, -, hu⟩ := escB_spec b hb
      obtain ⟨h, t, hht⟩ := List.exists_cons_of_ne_nil (splitOn_ne_nil cSlash (escPath rest))
      rw [splitOn_append_no_sep hs, splitOn_cons_ne hd]
      refine Eq.trans ?_ (congrArg (Option.map fun T => (b :: T.headD []) :: T.tail) ih)
      rw [hht, List.mapM_cons, List.mapM_cons, List.headD_cons, List.tail_cons, hu]
      cases unescapeB h <;> cases t.mapM unescapeB <;> rfl

theorem isPrefixB_append (a b : Bytes) : isPrefixB a (a ++ b) = true := by
  induction a with
  | nil => rfl
  | cons x xs ih => simp [isPrefixB, ih]

theorem dot_not_in_escPath (rid : Bytes) : cDot ∉ escPath rid := by
  intro h
  obtain ⟨a, -, ha⟩ := List.mem_map.1 h
  split at ha
  · cases ha
  · next e => exact e ha

/-- **Round trip.** For every resource id (any bytes, incl. a query part and characters needing
    escaping) that is non-empty and does not start with a dot, and every prefix, the path printed
    by `RIDToPath` is mapped back to that resource id by `PathToRID`. -/
theorem pathToRID_ridToPathB (rid pref q : Bytes) (hne : rid ≠ []) (hhead : rid.head? ≠ some cDot)
    (hb : ∀ b ∈ rid, b < 256) :
    pathToRID (ridToPathB rid pref) q pref = if q.isEmpty then rid else rid ++ cQm :: q := by
  cases rid with
  | nil => exact absurd rfl hne
  | cons b rest =>
    have hd : b ≠ cDot := fun e => hhead (congrArg some e)
    have hb' := hb b List.mem_cons_self
    -- the escaped path starts with a byte of `escB b`, which is not a slash
    obtain ⟨c, tl, hc⟩ : ∃ c tl, escB b = c :: tl := by
      unfold escB
      split <;> exact ⟨_, _, rfl⟩
    have hcs : c ≠ cSlash := fun e => (escB_spec b hb').1 (by simp [hc, e])
    have hesc : escPath (b :: rest) = c :: (tl ++ escPath rest) := by
      rw [escPath_cons b rest hb', if_neg hd, hc]
      rfl
    have hstrip : stripSlash (escPath (b :: rest)) = escPath (b :: rest) :=
      stripSlash.eq_2 _ fun _ e => hcs (List.cons.inj (hesc ▸ e)).1
    have hnodot : (escPath (b :: rest)).contains cDot = false := by
      simpa using dot_not_in_escPath (b :: rest)
    have hlen : ((pref ++ escPath (b :: rest)).length == pref.length) = false := by
      simp [hesc]
    show pathToRID (pref ++ escPath (b :: rest)) q pref = _
    simp only [pathToRID, hlen, List.drop_left, isPrefixB_append, hnodot, hstrip,
      mapM_unescape_escPath (b :: rest) hb, joinWith_splitOn]
    rfl

end Resgate.Enc
