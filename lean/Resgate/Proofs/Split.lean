import Resgate.Model.Basic

namespace Resgate

@[simp] theorem splitOn_nil (sep : Nat) : splitOn sep [] = [[]] := rfl

theorem splitOn_cons_sep (sep : Nat) (cs : Bytes) :
    splitOn sep (sep :: cs) = [] :: splitOn sep cs := by
  simp [splitOn]

theorem splitOn_cons_ne {sep c : Nat} (h : c ≠ sep) (cs : Bytes) :
    splitOn sep (c :: cs) = (c :: (splitOn sep cs).headD []) :: (splitOn sep cs).tail := by
  simp [splitOn, h]

/-- Induction along `splitOn`: its graph is generated by these three rules.  A proof that uses them
    never meets the `headD`/`tail` of a token list it has to know is non-empty. -/
theorem splitOn_induction {sep : Nat} {motive : Bytes → List Bytes → Prop}
    (nil : motive [] [[]])
    (cons_sep : ∀ cs t ts, motive cs (t :: ts) → motive (sep :: cs) ([] :: t :: ts))
    (cons_ne : ∀ c cs t ts, c ≠ sep → motive cs (t :: ts) → motive (c :: cs) ((c :: t) :: ts))
    (s : Bytes) : motive s (splitOn sep s) := by
  induction s with
  | nil => exact nil
  | cons c cs ih =>
    obtain ⟨t, ts, h⟩ := List.exists_cons_of_ne_nil (splitOn_ne_nil sep cs)
    rw [h] at ih
    by_cases hc : c = sep
    · rw [hc, splitOn_cons_sep, h]
      exact cons_sep _ _ _ ih
    · rw [splitOn_cons_ne hc, h]
      exact cons_ne _ _ _ _ hc ih

theorem splitOn_append_sep (sep : Nat) (a b : Bytes) :
    splitOn sep (a ++ sep :: b) = splitOn sep a ++ splitOn sep b := by
  refine splitOn_induction (motive := fun a ts => splitOn sep (a ++ sep :: b) = ts ++ splitOn sep b)
    ?_ ?_ ?_ a
  · simp [splitOn_cons_sep]
  · intro cs t ts ih
    simp [splitOn_cons_sep, ih]
  · intro c cs t ts hc ih
    simp [splitOn_cons_ne hc, ih]

theorem splitOn_append_no_sep {sep : Nat} {w : Bytes} (hw : sep ∉ w) (s : Bytes) :
    splitOn sep (w ++ s) = (w ++ (splitOn sep s).headD []) :: (splitOn sep s).tail := by
  induction w with
  | nil =>
    obtain ⟨t, ts, h⟩ := List.exists_cons_of_ne_nil (splitOn_ne_nil sep s)
    simp [h]
  | cons c cs ih =>
    simp only [List.mem_cons, not_or] at hw
    simp [splitOn_cons_ne (Ne.symm hw.1), ih hw.2]

theorem splitOn_no_sep {sep : Nat} {s : Bytes} (h : sep ∉ s) : splitOn sep s = [s] := by
  simpa using splitOn_append_no_sep h []

theorem splitOn_tokens_no_sep (sep : Nat) (s : Bytes) : ∀ t ∈ splitOn sep s, sep ∉ t := by
  refine splitOn_induction (motive := fun _ ts => ∀ t ∈ ts, sep ∉ t) ?_ ?_ ?_ s
  · simp
  · intro cs t ts ih
    exact List.forall_mem_cons.mpr ⟨List.not_mem_nil, ih⟩
  · intro c cs t ts hc ih
    rw [List.forall_mem_cons] at ih ⊢
    exact ⟨by simp [ih.1, Ne.symm hc], ih.2⟩

/-- The bytes of a token list when it follows a token: every token preceded by a separator. -/
def tailOf (sep : Nat) (ts : List Bytes) : Bytes := ts.flatMap (sep :: ·)

@[simp] theorem tailOf_nil (sep : Nat) : tailOf sep [] = [] := rfl

@[simp] theorem tailOf_cons (sep : Nat) (t : Bytes) (ts : List Bytes) :
    tailOf sep (t :: ts) = sep :: t ++ tailOf sep ts := rfl

theorem tailOf_splitOn (sep : Nat) (s : Bytes) : tailOf sep (splitOn sep s) = sep :: s := by
  refine splitOn_induction (motive := fun s ts => tailOf sep ts = sep :: s) ?_ ?_ ?_ s
  · rfl
  · intro cs t ts ih
    simpa using ih
  · intro c cs t ts hc ih
    simpa using ih

theorem joinWith_splitOn (sep : Nat) (s : Bytes) : joinWith sep (splitOn sep s) = s := by
  refine splitOn_induction (motive := fun s ts => joinWith sep ts = s) rfl ?_ ?_ s
  · intro cs t ts ih
    simp [joinWith, ih]
  · intro c cs t ts hc ih
    cases ts <;> simp_all [joinWith]

theorem splitOn_inj {sep : Nat} {s s' : Bytes} : splitOn sep s = splitOn sep s' ↔ s = s' :=
  ⟨fun h => by simpa [joinWith_splitOn] using congrArg (joinWith sep) h, congrArg _⟩

theorem cutAt_cons_ne {sep c : Nat} (h : c ≠ sep) (cs : Bytes) :
    cutAt sep (c :: cs) = (c :: (cutAt sep cs).1, (cutAt sep cs).2) := by
  simp [cutAt, h]

theorem cutAt_no_sep {sep : Nat} {s : Bytes} (h : sep ∉ s) : cutAt sep s = (s, none) := by
  induction s with
  | nil => rfl
  | cons c cs ih =>
    rw [List.mem_cons, not_or] at h
    rw [cutAt_cons_ne (Ne.symm h.1), ih h.2]

end Resgate
