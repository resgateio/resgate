import Resgate.Gw.Reset

namespace Resgate.Gw

theorem mem_validPats (ps : List String) (pat : Pattern) :
    pat ∈ validPats ps ↔
      ∃ p ∈ ps, (parsePattern (toBytes p)).isValid = true ∧ parsePattern (toBytes p) = pat := by
  simp [validPats]

theorem mem_resetMatches (index : List (String × Nat)) (pats : List Pattern) (eid : Nat) :
    eid ∈ resetMatches index pats ↔
      ∃ name, (name, eid) ∈ index ∧ ∃ pat ∈ pats, pat.matches (toBytes name) = true := by
  simp only [resetMatches, List.mem_flatMap, List.mem_map, List.mem_filter, exists_and_right,
    Prod.exists, exists_eq_right_right]

/-- How often an entry is handed over: once per matching pattern and index line. -/
theorem count_resetMatches_le (index : List (String × Nat)) (pats : List Pattern) :
    (resetMatches index pats).length ≤ index.length * pats.length := by
  unfold resetMatches
  induction index with
  | nil => simp
  | cons ne r ih =>
    rw [List.flatMap_cons, List.length_append, List.length_map, List.length_cons, Nat.succ_mul]
    have := List.length_filter_le (fun pat : Pattern => pat.matches (toBytes ne.1)) pats
    omega

end Resgate.Gw
