import Resgate.Proofs.EncodeSpec

namespace Resgate.Enc

/-- Every reference value in the graph points to a node of the graph. -/
def valResolves (g : HGraph) : HVal → Prop
  | .ref rid => (lookup g rid).isSome = true
  | _ => True

def Closed (g : HGraph) : Prop :=
  ∀ rid n, lookup g rid = some n →
    match n with
    | .err _ => True
    | .model kvs => ∀ kv ∈ kvs, valResolves g kv.2
    | .coll vs => ∀ v ∈ vs, valResolves g v

theorem expSub_isSome (g : HGraph) (hc : Closed g) (pref : String) (flat : Bool) (path : List String) :
    ∀ (rid : String) (wrap : Bool), (lookup g rid).isSome = true →
      (expSub g pref flat path rid wrap).isSome = true := by
  induction path using expansion_induction (g := g) with
  | step path ih =>
    intro rid wrap hl
    rw [expSub]
    by_cases hp : rid ∈ path
    · rw [dif_pos hp]; rfl
    obtain ⟨nd, hnd⟩ := Option.isSome_iff_exists.1 hl
    have hval : ∀ v, valResolves g v → (expVal g pref flat (rid :: path) v).isSome = true := by
      intro v hv
      cases v with
      | ref r => rw [expVal]; exact ih rid nd hnd hp r true hv
      | _ => rw [expVal]; rfl
    have hcl := hc rid nd hnd
    rw [dif_neg hp, hnd]
    cases nd with
    | err e => rfl
    | model kvs => simpa [expKVs_eq_mapM, mapM_isSome] using fun k v hkv => hval v (hcl (k, v) hkv)
    | coll vs => simpa [expVals_eq_mapM, mapM_isSome] using fun v hv => hval v (hcl v hv)

/-- Termination with a result: on a closed graph the encoder returns a body for every resource,
    since it prints the expansion. -/
theorem encodeGET_isSome (g : HGraph) (hc : Closed g) (pref : String) (flat : Bool) (rid : String)
    (h : (lookup g rid).isSome = true) : (encodeGET g pref flat rid).isSome = true := by
  rw [encodeGET_eq_render, Option.isSome_map]
  exact expSub_isSome g hc pref flat [] rid false h

/-- A reference that would re-enter a resource already on the expansion path is rendered as href
    only (both encoders). -/
theorem encSub_reentry (g : HGraph) (pref : String) (flat : Bool) (path : List String) (rid : String)
    (h : rid ∈ path) : encSub g pref flat path rid true = some (href rid pref ++ "}") := by
  rw [encSub, dif_pos h]
  cases flat <;> rfl

/-- Soft references are href only; data values are emitted unwrapped; primitives verbatim. -/
theorem encVal_leaves (g : HGraph) (pref : String) (flat : Bool) (path : List String) (rid raw : String) :
    encVal g pref flat path (.soft rid) = some (href rid pref ++ "}") ∧
    encVal g pref flat path (.data raw) = some raw ∧
    encVal g pref flat path (.prim raw) = some raw := by
  refine ⟨?_, ?_, ?_⟩ <;> rw [encVal]

/-- A failed reference is rendered as its error (wrapped with href in the `json` encoding). -/
theorem encSub_error (g : HGraph) (pref : String) (path : List String) (rid e : String)
    (hp : rid ∉ path) (hl : lookup g rid = some (.err e)) :
    encSub g pref false path rid true = some (href rid pref ++ ",\"error\":" ++ e ++ "}") ∧
    encSub g pref true path rid true = some e := by
  constructor <;> rw [encSub, dif_neg hp, hl]
  · rfl
  · simp

end Resgate.Enc
