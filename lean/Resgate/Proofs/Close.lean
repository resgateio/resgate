import Resgate.Gw.Close
import Resgate.Proofs.Assoc

/-
Closing the subscriptions of a connection (`closeSub`, `closeSubs` of `Gw/Close.lean`).
`closeSub_eq` says what one `closeSub` changes; from it: the connection found under an id
afterwards, in closed form (`closeObj` is `closeSub` seen from the connection's table of
subscription objects; `find?_closeSubs`), the frame (`closeSubs_frame`) and what each cache entry's
queue receives (`closeSubs_entry`).  Look-ups are stated on `g.conns.find?`, not on `connOf`, so
that a connection that does not exist needs no side condition (`Option.map` instead of `getD`).
-/

namespace Resgate.Gw

def connOf (g : Gw) (cid : Nat) : Conn := (g.conns.find? (·.cid == cid)).getD default
def subOf (g : Gw) (cid uid : Nat) : Sub := tget (connOf g cid).objs uid
/-- What subscription `uid` of connection `cid` gives back when the connection closes. -/
def releaseOf (g : Gw) (cid uid : Nat) : Option (Nat × CItem) := (subOf g cid uid).release cid

theorem find?_updConn (l : List Conn) (cid k : Nat) (F : Conn → Conn) (hF : ∀ d, (F d).cid = d.cid) :
    (l.map fun d => if d.cid == cid then F d else d).find? (·.cid == k) =
      if k = cid then (l.find? (·.cid == k)).map F else l.find? (·.cid == k) := by
  induction l with
  | nil => exact (ite_self none).symm
  | cons d r ih =>
    rw [List.map_cons, List.find?_cons, List.find?_cons, apply_ite Conn.cid, hF, ite_self]
    cases h : d.cid == k with
    | false => exact ih
    | true =>
      obtain rfl := beq_iff_eq.mp h
      simp only [beq_iff_eq]
      split <;> rfl

theorem find?_setSubPure (g : Gw) (cid uid k : Nat) (s : Sub) :
    (setSubPure g cid uid s).conns.find? (·.cid == k) =
      if k = cid then (g.conns.find? (·.cid == k)).map fun d => { d with objs := tset d.objs uid s }
      else g.conns.find? (·.cid == k) :=
  find?_updConn g.conns cid k _ fun _ => rfl

theorem find?_closingStart (g : Gw) (cid k : Nat) :
    (closingStart g cid).conns.find? (·.cid == k) =
      if k = cid then (g.conns.find? (·.cid == k)).map fun d => { d with disposing := true, subs := [] }
      else g.conns.find? (·.cid == k) :=
  find?_updConn g.conns cid k _ fun _ => rfl

theorem Sub.closed_state (s : Sub) : s.closed.state = .disposed := by
  unfold Sub.closed
  split <;> rfl

theorem release_disposed (cid : Nat) (s : Sub) (h : (s.state == .disposed) = true) : s.release cid = none := by
  unfold Sub.release; simp [h]

/-- `closeSub` on the table of subscription objects of the connection. -/
def closeObj (objs : List (Nat × Sub)) (uid : Nat) : List (Nat × Sub) :=
  if (tget objs uid).state == .disposed then objs else tset objs uid (tget objs uid).closed

theorem tget_closeObj_ne (objs : List (Nat × Sub)) {uid u : Nat} (hne : u ≠ uid) :
    tget (closeObj objs uid) u = tget objs u := by
  unfold closeObj
  split
  · rfl
  · rw [tget_tset, if_neg hne]

theorem closeObj_disposed (objs : List (Nat × Sub)) (uid u : Nat) :
    (tget (closeObj objs uid) u).state = .disposed ↔ u = uid ∨ (tget objs u).state = .disposed := by
  unfold closeObj
  by_cases hd : ((tget objs uid).state == .disposed) = true
  · rw [if_pos hd]
    exact ⟨.inr, fun h => h.elim (fun e => e ▸ beq_iff_eq.mp hd) id⟩
  · rw [if_neg hd, tget_tset]
    by_cases hu : u = uid
    · simp [hu, Sub.closed_state]
    · simp [hu]

theorem closeObjs_disposed (order : List Nat) (objs : List (Nat × Sub)) (u : Nat) :
    (tget (order.foldl closeObj objs) u).state = .disposed ↔
      u ∈ order ∨ (tget objs u).state = .disposed := by
  induction order generalizing objs with
  | nil => simp
  | cons v rest ih => rw [List.foldl_cons, ih, closeObj_disposed, List.mem_cons, or_left_comm, or_assoc]

/-- The three things `closeSub` changes: the subscription object, the queue of the cache entry the
    subscription held (a disposed subscription holds none) and the stamp. -/
theorem closeSub_eq (cid : Nat) (g : Gw) (uid : Nat) :
    closeSub cid g uid =
      { g with
        conns := if (subOf g cid uid).state == .disposed then g.conns
                 else (setSubPure g cid uid (subOf g cid uid).closed).conns
        entries := match releaseOf g cid uid with
                   | some (eid, it) => (enqueuePure g eid it).entries
                   | none => g.entries
        stamp := match releaseOf g cid uid with
                 | some _ => g.stamp + 1
                 | none => g.stamp } := by
  unfold closeSub releaseOf subOf connOf
  dsimp only
  split
  next h => rw [release_disposed cid _ h]
  next =>
    generalize Sub.release cid _ = r
    rcases r with _ | ⟨eid, it⟩ <;> rfl

/-- The connection found under `cid` is the one `closeSub` read the subscription from, so on it
    `closeSub` is `closeObj`; further connections with the same id are never looked up. -/
theorem find?_closeSub (cid : Nat) (g : Gw) (uid k : Nat) :
    (closeSub cid g uid).conns.find? (·.cid == k) =
      if k = cid then (g.conns.find? (·.cid == k)).map fun d => { d with objs := closeObj d.objs uid }
      else g.conns.find? (·.cid == k) := by
  rw [closeSub_eq]
  dsimp only
  rw [apply_ite (List.find? _), find?_setSubPure]
  by_cases hk : k = cid
  · subst hk
    rw [if_pos rfl, if_pos rfl]
    unfold closeObj subOf connOf
    cases g.conns.find? (·.cid == k) with
    | none => exact ite_self none
    | some d => exact (apply_ite (fun objs => some { d with objs := objs }) (_ = true) ..).symm
  · rw [if_neg hk, if_neg hk, ite_self]

theorem closeSubs_cons (cid : Nat) (g : Gw) (u : Nat) (rest : List Nat) :
    closeSubs cid g (u :: rest) = closeSubs cid (closeSub cid g u) rest :=
  List.foldl_cons ..

theorem find?_closeSubs (cid : Nat) (order : List Nat) (g : Gw) (k : Nat) :
    (closeSubs cid g order).conns.find? (·.cid == k) =
      if k = cid then
        (g.conns.find? (·.cid == k)).map fun d => { d with objs := order.foldl closeObj d.objs }
      else g.conns.find? (·.cid == k) := by
  induction order generalizing g with
  | nil => simp [closeSubs]
  | cons u rest ih =>
    rw [closeSubs_cons, ih, find?_closeSub]
    by_cases hk : k = cid
    · rw [if_pos hk, if_pos hk, if_pos hk, Option.map_map]
      rfl
    · rw [if_neg hk, if_neg hk, if_neg hk]

theorem subOf_closeSub_ne (cid : Nat) (g : Gw) (uid : Nat) {u : Nat} (hne : u ≠ uid) :
    subOf (closeSub cid g uid) cid u = subOf g cid u := by
  unfold subOf connOf
  rw [find?_closeSub, if_pos rfl]
  cases g.conns.find? (·.cid == cid) with
  | none => rfl
  | some d => exact tget_closeObj_ne _ hne

/-- Outside the connections, closing touches only the cache entries and the stamp: it issues no
    request, sends nothing, and leaves throttles, index and fan-out alone. -/
theorem closeSubs_frame (cid : Nat) (order : List Nat) (g : Gw) :
    ∃ conns entries stamp,
      closeSubs cid g order = { g with conns := conns, entries := entries, stamp := stamp } := by
  induction order generalizing g with
  | nil => exact ⟨_, _, _, rfl⟩
  | cons u rest ih =>
    obtain ⟨_, _, _, h⟩ := ih (closeSub cid g u)
    exact ⟨_, _, _, by rw [closeSubs_cons, h, closeSub_eq]⟩

/-- The items cache entry `eid` receives when the subscriptions `order` of connection `cid` close:
    one `unsubscribe` per subscription of `cid` that holds a resource of that entry. -/
def releasesFor (g : Gw) (cid eid : Nat) (order : List Nat) : List CItem :=
  order.filterMap fun u => match releaseOf g cid u with
    | some (e', it) => if e' = eid then some it else none
    | none => none

theorem filterMap_congr {α β} (l : List α) (f h : α → Option β) (hfh : ∀ a ∈ l, f a = h a) :
    l.filterMap f = l.filterMap h := by
  induction l with
  | nil => rfl
  | cons a r ih =>
    rw [List.filterMap_cons, List.filterMap_cons, hfh a (List.mem_cons_self ..),
      ih (fun b hb => hfh b (List.mem_cons_of_mem _ hb))]

theorem releasesFor_congr {g g' : Gw} {cid : Nat} {order : List Nat} (eid : Nat)
    (h : ∀ u ∈ order, subOf g' cid u = subOf g cid u) :
    releasesFor g' cid eid order = releasesFor g cid eid order := by
  unfold releasesFor releaseOf
  exact filterMap_congr _ _ _ fun u hu => by rw [h u hu]

theorem releasesFor_cons (g : Gw) (cid eid u : Nat) (rest : List Nat) :
    releasesFor g cid eid (u :: rest) = releasesFor g cid eid [u] ++ releasesFor g cid eid rest :=
  List.filterMap_append (l := [u])

/-- Cache side of one closed subscription: the entry it held gets one `unsubscribe` item appended to
    its queue; counts, resources, locks and every other entry are untouched. -/
theorem closeSub_entry (cid : Nat) (g : Gw) (uid eid : Nat) :
    tget (closeSub cid g uid).entries eid =
      { tget g.entries eid with
        queue := (tget g.entries eid).queue ++ (releasesFor g cid eid [uid]).map (g.stamp, ·) } := by
  rw [closeSub_eq]
  simp only [releasesFor, List.filterMap_cons, List.filterMap_nil]
  cases hr : releaseOf g cid uid with
  | none => rw [List.map_nil, List.append_nil]
  | some p =>
    obtain ⟨e', it⟩ := p
    simp only [enqueuePure, tget_tset]
    by_cases he : e' = eid
    · simp [he]
    · simp [he, Ne.symm he]

/-- `Nodup`: a subscription listed twice is closed, and releases, once; `releasesFor g` counts it
    twice. -/
theorem closeSubs_entry (cid : Nat) (order : List Nat) (hnd : order.Nodup) (g : Gw) (eid : Nat) :
    ∃ items : List (Nat × CItem),
      tget (closeSubs cid g order).entries eid =
        { tget g.entries eid with queue := (tget g.entries eid).queue ++ items } ∧
      items.map (·.2) = releasesFor g cid eid order := by
  induction order generalizing g with
  | nil => exact ⟨[], by simp [closeSubs], rfl⟩
  | cons u rest ih =>
    rw [List.nodup_cons] at hnd
    obtain ⟨items, h1, h2⟩ := ih hnd.2 (closeSub cid g u)
    refine ⟨(releasesFor g cid eid [u]).map (g.stamp, ·) ++ items, ?_, ?_⟩
    · rw [closeSubs_cons, h1, closeSub_entry, List.append_assoc]
    · rw [releasesFor_cons g cid eid u rest, List.map_append, h2,
        releasesFor_congr eid fun v hv => subOf_closeSub_ne cid g u fun e => hnd.1 (e ▸ hv)]
      simp [Function.comp_def]

end Resgate.Gw
