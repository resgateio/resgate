/-
The ready-callback counter of `Subscription.OnReady / onLoaded / collectRefs / testReady`
(`readyCallback.loading`): one counter per client request, incremented for every subscription of
the tree that is still loading when it is visited, decremented when that subscription has loaded
and by the visiting subscription itself *after* it has visited its references; the request is
answered when the counter reaches zero.  The machine is defined here and calls no model function:
it mirrors the discipline of the gateway model's ready callbacks (`rcbs`), which are in every
lockstep snapshot.
-/

namespace Resgate.Ready

structure S where
  count : Int := 1        -- `loading`: starts with the root's own token
  rootHeld : Bool := true -- the root is still visiting its references (its token is not given back)
  outstanding : Nat := 0  -- subscriptions that were registered and have not loaded yet
  fired : Nat := 0        -- number of times the reply callback ran
  deriving Repr, DecidableEq

inductive Op where
  | register      -- a loading reference is visited: `loading++`
  | loaded        -- a registered subscription finishes loading: `loading--`, then `testReady`
  | rootDone      -- the root has visited all references: `loading--`, then `testReady`
  deriving Repr, DecidableEq

def fire (s : S) : S := if s.count = 0 then { s with fired := s.fired + 1 } else s

def step (s : S) : Op → S
  | .register => { s with count := s.count + 1, outstanding := s.outstanding + 1 }
  | .loaded => if s.outstanding = 0 then s else fire { s with count := s.count - 1, outstanding := s.outstanding - 1 }
  | .rootDone => if !s.rootHeld then s else fire { s with count := s.count - 1, rootHeld := false }

def run (s : S) : List Op → S
  | [] => s
  | op :: ops => run (step s op) ops

/-- The discipline the code follows: references are registered only while the root still holds
    its own token (`collectRefs` decrements after the loop over the references). -/
def Disciplined : S → List Op → Prop
  | _, [] => True
  | s, op :: ops => (op = .register → s.rootHeld = true) ∧ Disciplined (step s op) ops

/-- The counter is the number of tokens out (one per subscription still loading, one for the root
    while it visits), and the reply has run iff the counter stands at zero. -/
def Inv (s : S) : Prop :=
  s.count = s.outstanding + s.rootHeld.toNat ∧ s.fired = if s.count = 0 then 1 else 0

theorem inv_init : Inv {} := ⟨rfl, rfl⟩

/-- A token is given back only while the counter is positive, so no reply has run before; `fire`
    then runs it iff the counter has reached zero. -/
theorem inv_fire {s : S} (hc : s.count = s.outstanding + s.rootHeld.toNat) (hf : s.fired = 0) :
    Inv (fire s) := by
  unfold fire
  split
  all_goals next h => exact ⟨hc, by simp [h, hf]⟩

theorem step_inv (s : S) (op : Op) (h : Inv s) (hd : op = .register → s.rootHeld = true) :
    Inv (step s op) := by
  obtain ⟨hc, hf⟩ := h
  have h0 : s.count ≠ 0 → s.fired = 0 := fun h => hf.trans (if_neg h)
  cases op with
  | register =>
    have hr := hd rfl
    simp only [hr, Bool.toNat_true] at hc
    -- the root's token keeps the counter positive before and after: no reply so far, none now
    refine ⟨?_, (h0 (by omega)).trans (if_neg ?_).symm⟩
    · simp only [step, hr, Bool.toNat_true]
      omega
    · simp only [step]
      omega
  | loaded =>
    simp only [step]
    split
    · exact ⟨hc, hf⟩
    · exact inv_fire (by simp only; omega) (h0 (by omega))
  | rootDone =>
    simp only [step]
    cases hr : s.rootHeld with
    | false => exact ⟨hc, hf⟩
    | true =>
      simp only [hr, Bool.toNat_true] at hc
      exact inv_fire (by simp; omega) (h0 (by omega))

theorem run_inv {s : S} {ops : List Op} (h : Inv s) (hd : Disciplined s ops) : Inv (run s ops) := by
  induction ops generalizing s with
  | nil => exact h
  | cons op ops ih => exact ih (step_inv s op h hd.1) hd.2

theorem Inv.fired_eq {s : S} (h : Inv s) :
    s.fired = if s.rootHeld = false ∧ s.outstanding = 0 then 1 else 0 := by
  rw [h.2, h.1]
  cases s.rootHeld <;> simp <;> omega

end Resgate.Ready
