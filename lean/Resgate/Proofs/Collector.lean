import Resgate.Gw.Collector
import Resgate.Proofs.Populate

/-
The repaired collector (`tryDelete` with its table keyed by subscription object) never meets, in
its second traversal, a subscription that the first traversal did not register — for every
connection state (any reference graph, including disposed subscriptions that are still referenced
and several subscription objects for one resource id) and every iteration order of the `refs` maps.
-/

namespace Resgate.Gw

theorem perm_cons_eraseIdx {α} {l : List α} {i : Nat} {x : α} (h : l[i]? = some x) :
    l.Perm (x :: l.eraseIdx i) := by
  obtain ⟨hi, rfl⟩ := List.getElem?_eq_some_iff.mp h
  have := List.perm_middle (a := l[i]) (l₁ := l.take i) (l₂ := l.drop (i + 1))
  rwa [List.getElem_cons_drop hi, List.take_append_drop, ← List.eraseIdx_eq_take_drop_succ] at this

theorem shuffle_go_perm {α} (fuel seed : Nat) (l acc : List α) :
    (shuffle.go fuel seed l acc).Perm (acc.reverse ++ l) := by
  fun_induction shuffle.go fuel seed l acc
  · exact .refl _
  · simp
  · next hx ih =>
    refine ih.trans ?_
    rw [List.reverse_cons, List.append_assoc]
    exact (perm_cons_eraseIdx hx).symm.append_left _
  · exact .refl _

theorem shuffle_perm {α} (seed : Nat) (l : List α) : List.Perm (shuffle seed l) l := by
  cases l with
  | nil => exact .refl _
  | cons a r => exact shuffle_go_perm ..

theorem refsOrder_perm (ord ctr : Nat) (s : Sub) : (refsOrder ord ctr s).1.Perm (sortedRefs s) := by
  unfold refsOrder
  split
  · refine List.perm_append_comm.trans ?_
    rw [List.take_append_drop]
    split
    · exact List.reverse_perm _
    · exact .refl _
  · exact shuffle_perm ..

/-- Whatever the order parameter and counter, the range visits exactly the reference table. -/
theorem mem_refsOrder (ord ctr : Nat) (s : Sub) (x : String × Nat × Nat) :
    x ∈ (refsOrder ord ctr s).1 ↔ x ∈ s.refs :=
  (refsOrder_perm ord ctr s).mem_iff.trans (mem_sortedRefs s x)

/-- subscription object `u` has an entry in the table -/
def Reg (M : Memo) (u : Nat) : Prop := ∃ e ∈ M, e.2.1 = u

theorem reg_iff (M : Memo) (u : Nat) : Reg M u ↔ u ∈ M.map (·.2.1) := List.mem_map.symm

theorem reg_find (M : Memo) (u : Nat) : Reg M u ↔ ∃ e, M.find u = some e := by
  simp only [Memo.find, ← Option.isSome_iff_exists, List.find?_isSome, beq_iff_eq, Reg]

/-- Rewriting entries in place (the counts, the gc state) registers nothing and forgets nothing. -/
theorem reg_map (M : Memo) (f : String × Nat × Int × Int × Nat → String × Nat × Int × Int × Nat)
    (hf : ∀ e, (f e).2.1 = e.2.1) (u : Nat) : Reg (M.map f) u ↔ Reg M u := by
  simp only [reg_iff, List.map_map, Function.comp_def, hf]

theorem reg_append (M : Memo) (e : String × Nat × Int × Int × Nat) (u : Nat) :
    Reg (M ++ [e]) u ↔ Reg M u ∨ u = e.2.1 := by
  simp only [reg_iff, List.map_append, List.mem_append, List.map_cons, List.map_nil, List.mem_singleton]

/-- has a direct count: the traversals never enter it -/
def Dir (c : Conn) (u : Nat) : Prop := (st c u).direct > 0

/-- every reference of `u` is to a subscription with a direct count or to a registered one -/
def Cov (c : Conn) (M : Memo) (u : Nat) : Prop :=
  ∀ ch ∈ (st c u).refs, Dir c ch.2.1 ∨ Reg M ch.2.1

/-- The depth-first invariant of (a part of) the first traversal, from table `M` to `M'`: the table
    only grows, and what is newly registered has its references covered. -/
structure Covers (c : Conn) (M M' : Memo) : Prop where
  mono : ∀ u, Reg M u → Reg M' u
  fresh : ∀ u, ¬ Reg M u → Reg M' u → Cov c M' u

section
variable {c : Conn} {M M₁ M' : Memo}

theorem Covers.refl : Covers c M M := ⟨fun _ => id, fun _ h1 h2 => absurd h2 h1⟩

/-- The depth-first step: what is registered on the way from `M` to `M₁` need only be covered at the
    end `M'` of the traversal that follows. -/
theorem Covers.of_mono (h1 : ∀ u, Reg M u → Reg M₁ u) (h2 : Covers c M₁ M')
    (hnew : ∀ u, ¬ Reg M u → Reg M₁ u → Cov c M' u) : Covers c M M' := by
  refine ⟨fun u h => h2.mono u (h1 u h), fun u hn h' => ?_⟩
  by_cases hm : Reg M₁ u
  · exact hnew u hn hm
  · exact h2.fresh u hm h'

theorem Covers.trans (h1 : Covers c M M₁) (h2 : Covers c M₁ M') : Covers c M M' :=
  .of_mono h1.mono h2 fun u hn hm ch hch => (h1.fresh u hn hm ch hch).imp_right (h2.mono _)

end

/-- What one call of the first traversal establishes. -/
structure P1 (c : Conn) (uid state : Nat) (M M' : Memo) : Prop where
  mono : ∀ u, Reg M u → Reg M' u
  self : state ≠ 1 → Dir c uid ∨ Reg M' uid
  fresh : ∀ u, ¬ Reg M u → Reg M' u → Cov c M' u
  root : state = 1 → ¬ Dir c uid → Cov c M' uid

/-- One call, from the effect of its callback (`M₁`: this subscription is registered unless it is the
    root) and of the traversal of the children that follows (none, if the callback stops): their
    coverage is owed only if the callback registered the subscription, or for the root. -/
theorem P1.of_callback {c : Conn} {uid state : Nat} {M M₁ M' : Memo}
    (hreg : ∀ u, Reg M₁ u ↔ Reg M u ∨ state ≠ 1 ∧ u = uid) (hc : Covers c M₁ M')
    (hcov : ¬ Reg M uid ∨ state = 1 → Cov c M' uid) : P1 c uid state M M' := by
  have hc' := Covers.of_mono (fun u h => (hreg u).mpr (.inl h)) hc fun u hn h => by
    obtain h | ⟨-, rfl⟩ := (hreg u).mp h
    · exact absurd h hn
    · exact hcov (.inl hn)
  exact ⟨hc'.mono, fun h1 => .inr (hc.mono _ ((hreg uid).mpr (.inr ⟨h1, rfl⟩))), hc'.fresh,
    fun h _ => hcov (.inr h)⟩

/-- **First traversal**: everything it registers has all its references registered or directly
    held — for every graph and every order of the ranges. -/
theorem pass1F_spec (ord : Nat) (sd : Int) (c : Conn) (fuel : Nat) :
    ∀ (uid state : Nat) (M : Memo) (ctr : Nat), (pass1F ord sd fuel c uid state M ctr).2.2 = true →
      P1 c uid state M (pass1F ord sd fuel c uid state M ctr).1 := by
  induction fuel with
  | zero => intro uid state M ctr h; cases h
  | succ fuel ih =>
    intro uid state M ctr
    rw [pass1F]
    by_cases hd : (tget c.objs uid).direct > 0
    · rw [if_pos hd]
      exact fun _ =>
        ⟨fun _ => id, fun _ => .inl hd, fun u h1 h2 => absurd h2 h1, fun _ hnd => absurd hd hnd⟩
    · rw [if_neg hd]
      extract_lets res
      -- The callback registers the subscription unless it is the root (registered by the caller); it
      -- stops the descent only at one registered before, and never passes on the root's state.
      obtain ⟨hreg, hne, hstop⟩ : (∀ u, Reg res.1 u ↔ Reg M u ∨ state ≠ 1 ∧ u = uid) ∧ res.2 ≠ 1 ∧
          (res.2 = 0 → state ≠ 1 ∧ Reg M uid) := by
        by_cases h1 : state = 1
        · simp [res, h1]
        · cases hf : M.find uid with
          | none => simp [res, h1, hf, reg_append]
          | some e =>
            have hr : Reg M uid := (reg_find M uid).mpr ⟨e, hf⟩
            refine ⟨fun u => ?_, by simp [res, h1, hf], fun _ => ⟨h1, hr⟩⟩
            simp only [res, beq_iff_eq, h1, if_false, hf]
            rw [reg_map _ _ fun e => by split <;> rfl]
            exact (or_iff_left_of_imp fun h => h.2 ▸ hr).symm
      by_cases h0 : (res.2 == 0) = true
      · rw [if_pos h0]
        obtain ⟨h1, hr⟩ := hstop (beq_iff_eq.mp h0)
        exact fun _ => .of_callback hreg .refl fun h => h.elim (absurd hr) (absurd · h1)
      · rw [if_neg h0]
        intro hok
        obtain ⟨-, hc, hch⟩ := foldl_flag (α := Memo × Nat × Bool) (β := String × Nat × Nat) (ok := (·.2.2))
          (R := fun a b => Covers c a.1 b.1) (Q := fun ch a => Dir c ch.2.1 ∨ Reg a.1 ch.2.1)
          (fun _ => .refl) Covers.trans (fun h => Or.imp_right (h.mono _))
          (fun a ch h => by
            simp only [Bool.and_eq_true] at h
            have := ih _ _ _ _ h.2
            exact ⟨h.1, ⟨this.mono, this.fresh⟩, this.self hne⟩) _ _ hok
        exact .of_callback hreg hc fun _ ch h => hch ch ((mem_refsOrder ..).mpr h)

/-- the table is closed: every registered subscription has all its references registered or
    directly held -/
def TableClosed (c : Conn) (M : Memo) : Prop := ∀ u, Reg M u → Cov c M u

theorem TableClosed.congr {c : Conn} {M M' : Memo} (h : TableClosed c M) (hs : ∀ u, Reg M' u ↔ Reg M u) :
    TableClosed c M' :=
  fun u hu ch hch => (h u ((hs u).mp hu) ch hch).imp_right (hs _).mpr

/-- What one call of the second traversal establishes on a closed table. -/
structure P2 (M : Memo) (r : Memo × Nat × Bool × Bool) : Prop where
  same : ∀ u, Reg r.1 u ↔ Reg M u
  found : r.2.2.2 = true

/-- **Second traversal on a closed table**: it only meets registered subscriptions, and registers
    nothing new. -/
theorem pass2F_spec (ord : Nat) (sent : Bool) (c : Conn) (fuel : Nat) :
    ∀ (uid state : Nat) (M : Memo) (ctr : Nat), TableClosed c M → (Dir c uid ∨ Reg M uid) →
      P2 M (pass2F ord sent fuel c uid state M ctr) := by
  induction fuel with
  | zero => intro uid state M ctr _ _; exact ⟨fun _ => Iff.rfl, rfl⟩
  | succ fuel ih =>
    intro uid state M ctr hcl hreg
    rw [pass2F]
    by_cases hd : (tget c.objs uid).direct > 0
    · rw [if_pos hd]
      exact ⟨fun _ => Iff.rfl, rfl⟩
    · rw [if_neg hd]
      have hr : Reg M uid := hreg.resolve_left hd
      obtain ⟨⟨_, u, i, is, gs⟩, hf⟩ := (reg_find M uid).mp hr
      rw [hf]
      -- reduce the `match` on the entry found; `-zeta` keeps the model's `have`s for `extract_lets`
      dsimp -zeta only
      extract_lets setSt res
      -- whatever it decides, the callback only rewrites gc states
      have hres (v : Nat) : Reg res.1 v ↔ Reg M v := by
        have hm (n : Nat) : Reg (setSt n) v ↔ Reg M v := reg_map M _ (fun x => by split <;> rfl) v
        simp only [res, apply_ite (fun r : Memo × Nat => Reg r.1 v), hm, ite_self]
      have hcb (k : Nat) : P2 M (res.1, k, true, true) := ⟨hres, rfl⟩
      by_cases h0 : (res.2 == 0) = true
      · rw [if_pos h0]
        exact hcb _
      · rw [if_neg h0]
        -- the fold keeps `P2 M`: each child is covered since the table is closed and has the same keys
        refine List.foldlRecOn _ _ (hcb _) fun acc hacc ch hch => ?_
        have := ih ch.2.1 res.2 acc.1 acc.2.1 (hcl.congr hacc.same)
          ((hcl uid hr ch ((mem_refsOrder ..).mp hch)).imp_right (hacc.same _).mpr)
        exact ⟨fun u => (this.same u).trans (hacc.same u), by simp [this.found, hacc.found]⟩

/-- Once the first traversal from a root without direct count (registered by the caller, as `e0`)
    has completed, its table is closed, and still holds the root. -/
theorem pass1F_closed (ord : Nat) (sd : Int) (c : Conn) (root : Nat) (e0 : String × Nat × Int × Int × Nat)
    (he0 : e0.2.1 = root) (hnd : ¬ Dir c root) (fuel ctr : Nat)
    (hok : (pass1F ord sd fuel c root 1 [e0] ctr).2.2 = true) :
    TableClosed c (pass1F ord sd fuel c root 1 [e0] ctr).1 ∧ Reg (pass1F ord sd fuel c root 1 [e0] ctr).1 root := by
  have hp := pass1F_spec ord sd c fuel root 1 [e0] ctr hok
  have h0 (u : Nat) : Reg [e0] u ↔ u = root := by simp [Reg, he0, eq_comm]
  refine ⟨fun u hu => ?_, hp.mono root ((h0 _).mpr rfl)⟩
  by_cases hu0 : u = root
  · exact hu0 ▸ hp.root rfl hnd
  · exact hp.fresh u (mt (h0 u).mp hu0) hu

end Resgate.Gw
