import Resgate.Proofs.Assoc

namespace Resgate.Gw

/-- After a get response re-linked the raw query, the raw query resolves to the target and every
    other query resolves as before. -/
theorem lookup_link (x : QIdx) (raw q : String) (target : Nat) :
    (x.link raw target).lookup q = if q = raw then some target else x.lookup q := by
  unfold QIdx.link QIdx.lookup
  by_cases hr : raw = ""
  · subst hr
    by_cases hq : q = "" <;> simp [hq]
  · by_cases hq : q = raw
    · subst hq
      simp [hr, qget_qset, qget_qdel]
    · simp [hr, hq, qget_qset, qget_qdel]

/-- A newly registered query resolves to its resource (the caller registers only queries that do
    not resolve yet). -/
theorem lookup_register (x : QIdx) (q : String) (rs : Nat) (hnone : x.lookup q = none) :
    (x.register q rs).lookup q = some rs := by
  unfold QIdx.register QIdx.lookup qget at *
  split at hnone
  · simp [*]
  · split at hnone
    · cases hnone
    · simp [*, List.lookup_append]

/-- Unregistering a resource removes its own query. -/
theorem lookup_unregister_self (x : QIdx) (q : String) (hq : q ≠ "") (hl : qget x.links q = none) :
    (x.unregister q []).lookup q = none := by
  simp [QIdx.unregister, QIdx.lookup, hq, qget_qdel, hl]

end Resgate.Gw
