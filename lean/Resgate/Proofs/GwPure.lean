import Resgate.Gw.Conn
import Resgate.Proofs.Access

/-
One characterising lemma per decision function of the gateway model: those of `Gw/Pure.lean`,
`Access.canGet` / `canCallE` (`Gw/Conn.lean`) and `applyStateEvent` (`Gw/Cache.lean`); and the use
counter of a cache entry as a small machine over `addCountPure` / `removeCountPure` (`Cnt`).
-/

namespace Resgate.Gw

/-! ### access verdicts (C04, C05, C06) -/

/-- `CanGet`: granted iff the answer carries no error and `get` is true; every error is a denial
    carrying that error, a result without `get` is `system.accessDenied`. -/
theorem canGet_spec (a : Access) :
    (a.canGet = none ↔ a.err = none ∧ a.get = true) ∧
    (∀ e, a.err = some e → a.canGet = some e) ∧
    (a.err = none → a.get = false → a.canGet = some "system.accessDenied") := by
  unfold Access.canGet
  refine ⟨?_, ?_, ?_⟩
  · cases h : a.err <;> cases hg : a.get <;> simp
  · intro e h; simp [h]
  · intro h hg; simp [h, hg]

/-- `CanCall`: granted iff no error and the call list is `*` or has the method as an exact entry. -/
theorem canCallE_spec (a : Access) (action : String) :
    a.canCallE action = none ↔
      a.err = none ∧ (toBytes a.call = [cStar] ∨
        (toBytes a.call ≠ [] ∧ toBytes action ∈ splitOn cComma (toBytes a.call))) := by
  unfold Access.canCallE
  cases h : a.err with
  | some e => simp
  | none =>
    simp only [true_and]
    rw [← canCall_spec]
    cases hc : canCall (toBytes a.call) (toBytes action) <;> simp

/-- A verdict is remembered only for an actual result or `system.accessDenied`; timeouts and other
    errors are not cached (the next request asks again). -/
theorem storeVerdict_spec (a : Access) :
    storeVerdict a = true ↔ a.err = none ∨ a.err = some "system.accessDenied" := by
  cases h : a.err <;> simp [storeVerdict, h]

theorem verdictAfter_append (newer h : List VEv)
    (hn : ∀ e ∈ newer, ∃ b, e = VEv.answer b ∧ storeVerdict b = false) :
    verdictAfter (newer ++ h) = verdictAfter h := by
  induction newer with
  | nil => rfl
  | cons e es ih =>
    rw [List.forall_mem_cons] at hn
    obtain ⟨⟨b, rfl, hb⟩, hn⟩ := hn
    simp [verdictAfter, verdictStep, hb, ih hn]

/-! ### version gate (C01, C03) -/

theorem subGate_spec (v stamp : Nat) (update : Bool) :
    (subGate v stamp update = none ↔ v ≠ stamp) ∧
    (v = stamp → subGate v stamp update = some (if update then v + 1 else v)) := by
  unfold subGate
  by_cases h : v = stamp <;> simp [h]

/-! ### direct subscription accounting (C08) -/

/-- An unsubscribe request succeeds exactly when its count is positive and does not exceed the
    number of direct subscriptions held; a non-positive or malformed count is
    `system.invalidParams`; everything else is `system.noSubscription`. -/
theorem unsubVerdict_spec (bad : Bool) (count : Int) (direct : Option Int) :
    (unsubVerdict bad count direct = .ok ↔ bad = false ∧ 0 < count ∧ ∃ d, direct = some d ∧ count ≤ d) ∧
    (unsubVerdict bad count direct = .invalidParams ↔ bad = true ∨ count ≤ 0) := by
  -- in terms of `count ≤ _` alone both sides are the same propositional formula
  simp only [unsubVerdict, ← Int.not_le (a := count)]
  cases bad
  · by_cases hc : count ≤ 0
    · simp [hc]
    · cases direct with
      | none => simp [hc]
      | some d => by_cases hd : count ≤ d <;> simp [hc, hd]
  · simp

/-- The per-resource limit: at `limit` direct subscriptions a further one is refused and the count
    is unchanged; below it the count grows by exactly one. -/
theorem addDirect_spec (limit d : Int) :
    (addDirect limit d = none ↔ limit ≤ d) ∧ (d < limit → addDirect limit d = some (d + 1)) := by
  unfold addDirect
  by_cases h : d ≥ limit <;> simp [h] <;> omega

/-! ### use counts and eviction (C09) -/

/-- A cache entry's use-count bookkeeping, abstractly: `evictPending` must say exactly whether the
    entry sits in the unsubscribe queue. -/
structure Cnt where
  count : Int
  pending : Bool
  deriving Repr

inductive CntOp | add | remove (n : Int)

/-- One operation; `none` = `timerqueue.Add` panics because the element is already queued. -/
def Cnt.step (c : Cnt) : CntOp → Option Cnt
  | .add => let (n, p) := addCountPure c.count c.pending; some ⟨n, p⟩
  | .remove n =>
    let (cnt, p, pnc) := removeCountPure c.count n c.pending
    if pnc then none else some ⟨cnt, p⟩

/-- Invariant under well-formed use (never more releases than uses): the count is non-negative and
    the entry waits for eviction exactly when its count is zero. -/
def Cnt.Inv (c : Cnt) : Prop := 0 ≤ c.count ∧ (c.pending = true ↔ c.count = 0)

/-- Adding a user keeps the invariant, except that a fresh entry (count 0, not pending) is not
    represented here: entries start at count 1. Releasing `n` users with `0 < n ≤ count` keeps it
    and never panics. -/
theorem Cnt.step_inv (c : Cnt) (h : c.Inv) (op : CntOp)
    (hop : match op with | .add => True | .remove n => 0 < n ∧ n ≤ c.count) :
    ∃ c', c.step op = some c' ∧ c'.Inv := by
  obtain ⟨h0, hp⟩ := h
  cases op with
  | add =>
    refine ⟨_, rfl, ?_⟩
    by_cases hc : c.count = 0 <;> simp [Cnt.Inv, hc, hp] <;> omega
  | remove n =>
    -- a used entry is not queued, so `timerqueue.Add` finds it absent
    have hpf : c.pending = false := by
      cases hpd : c.pending
      · rfl
      · have := hp.mp hpd
        omega
    have hn : n ≠ 0 := by omega
    by_cases hz : c.count - n = 0 <;> simp [Cnt.step, removeCountPure, Cnt.Inv, hpf, hz, hn]
    omega

/-- Eviction (`mqUnsubscribe`) acts only on an unused entry: it re-checks the count. -/
theorem evict_only_unused (count : Int) : (count > 0) → ¬ (count ≤ 0) := by omega

/-! ### the lock countdown (C13) -/

/-- The lock countdown: `n` unlock items arriving in any order relative to normal enqueues clear a
    lock of capacity `n`; nothing else does. -/
def lockAfter (cap : Nat) (k : Nat) : Option Nat := if k ≥ cap then none else some (cap - k)

theorem lock_clears_iff (cap k : Nat) (hc : 0 < cap) : lockAfter cap k = none ↔ cap ≤ k := by
  unfold lockAfter
  by_cases h : k ≥ cap <;> simp [h] <;> omega

/-! ### state events at the cache (C01, C02, C15) -/

/-- The cache side of the mechanism in the gateway model. An accepted state event is one of the
    three kinds with the matching payload, applied to a resource of the right kind and, for add /
    remove, within the bounds of the collection; the cached version goes up by exactly one and the
    event is handed on marked `update`, name and stamp untouched. -/
theorem applyStateEvent_some {r r' : Res} {ev ev' : REv} (h : applyStateEvent r ev = some (r', ev')) :
    (∃ kvs, ev.name = "change" ∧ ev.data = .change kvs ∧ r.state ≠ .collection ∧
      r' = { r with model := (applyChangeKvs r.model kvs).1, version := r.version + 1 } ∧
      ev' = { ev with changed := (applyChangeKvs r.model kvs).2, oldVals := r.model, update := true }) ∨
    (∃ idx v, ev.name = "add" ∧ ev.data = .add idx v ∧ r.state ≠ .model ∧
      0 ≤ idx ∧ idx ≤ r.coll.length ∧
      r' = { r with coll := r.coll.insertIdx idx.toNat v, version := r.version + 1 } ∧
      ev' = { ev with idx := idx, value := some v, update := true }) ∨
    (∃ idx, ev.name = "remove" ∧ ev.data = .remove idx ∧ r.state ≠ .model ∧
      0 ≤ idx ∧ idx < r.coll.length ∧
      r' = { r with coll := r.coll.eraseIdx idx.toNat, version := r.version + 1 } ∧
      ev' = { ev with idx := idx, value := r.coll[idx.toNat]?, update := true }) := by
  unfold applyStateEvent at h
  split at h
  · rename_i hn hd
    simp at h
    exact .inl ⟨_, hn, hd, h.1, h.2.2.1.symm, h.2.2.2.symm⟩
  · rename_i hn hd
    simp at h
    exact .inr (.inl ⟨_, _, hn, hd, h.1, h.2.1.1, h.2.1.2, h.2.2.1.symm, h.2.2.2.symm⟩)
  · rename_i hn hd
    simp at h
    exact .inr (.inr ⟨_, hn, hd, h.1, h.2.1.1, h.2.1.2, h.2.2.1.symm, h.2.2.2.symm⟩)
  · simp at h

/-- Kind and bounds checks: a change never applies to a collection, add/remove never to a model,
    and an accepted add / remove index lies within the current collection bounds. -/
theorem applyStateEvent_checks {r r' : Res} {ev ev' : REv} (h : applyStateEvent r ev = some (r', ev')) :
    (ev.name = "change" → r.state ≠ .collection) ∧
    (ev.name = "add" → r.state ≠ .model ∧ 0 ≤ ev'.idx ∧ ev'.idx ≤ r.coll.length) ∧
    (ev.name = "remove" → r.state ≠ .model ∧ 0 ≤ ev'.idx ∧ ev'.idx < r.coll.length) := by
  rcases applyStateEvent_some h with
    ⟨_, hn, _, hs, _⟩ | ⟨_, _, hn, _, hs, h0, h1, _, rfl⟩ | ⟨_, hn, _, hs, h0, h1, _, rfl⟩
  · simp [hn, hs]
  · simp [hn, hs, h0, h1]
  · simp [hn, hs, h0, h1]

end Resgate.Gw
