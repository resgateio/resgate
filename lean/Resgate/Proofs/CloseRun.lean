import Resgate.Proofs.Close
import Resgate.Proofs.Collector
import Resgate.Gw.Conn

/-
The monadic layer of closing: `disposeConn`, `connEnqueue`.  (`Collector` is imported for
`shuffle_perm`: `orderedList` ranges in shuffled order.)
-/

namespace Resgate.Gw

/-! `M = StateM Gw`: with these equations a `do` block is run by rewriting. -/

theorem run_bind {α β} (x : M α) (f : α → M β) (g : Gw) :
    (x >>= f).run g = (f (x.run g).1).run (x.run g).2 := rfl

theorem run_get (g : Gw) : (get : M Gw).run g = (g, g) := rfl

theorem run_getConn (cid : Nat) (g : Gw) : (getConn cid).run g = (connOf g cid, g) := rfl

/-- `plain`: a range over a map other than `refs` (second argument `false`). -/
theorem orderedList_plain {α} (sorted : List α) (g : Gw) :
    ∃ l n, l.Perm sorted ∧ (orderedList sorted false).run g = (l, { g with ordCtr := n }) := by
  unfold orderedList
  by_cases h : g.ord < 6
  · exact ⟨sorted, g.ordCtr, .refl _, by rw [run_bind, run_get, if_pos h]; rfl⟩
  · exact ⟨_, g.ordCtr + 1, shuffle_perm _ _, by rw [run_bind, run_get, if_neg h]; rfl⟩

theorem disposeConn_disposing (g : Gw) (cid : Nat) (h : (connOf g cid).disposing = true) :
    (disposeConn cid).run g = ((), g) := by
  rw [disposeConn, run_bind, run_getConn, if_pos h]
  rfl

/-- On a live connection `disposeConn` is `closingStart` followed by `closeSubs` over the
    connection's subscriptions in some order. -/
theorem disposeConn_live (g : Gw) (cid : Nat) (h : (connOf g cid).disposing = false) :
    ∃ order n, order.Perm ((connOf g cid).subs.map (·.2)) ∧
      ((disposeConn cid).run g).2 = closeSubs cid { closingStart g cid with ordCtr := n } order := by
  obtain ⟨l, n, hp, hr⟩ :=
    orderedList_plain ((connOf g cid).subs.mergeSort fun a b => !(b.1 < a.1)) (closingStart g cid)
  refine ⟨l.map (·.2), n, (hp.trans (List.mergeSort_perm _ _)).map _, ?_⟩
  rw [disposeConn, run_bind, run_getConn, if_neg (by simp [h])]
  exact congrArg (fun r => closeSubs cid r.2 (r.1.map (·.2))) hr

/-- Once a connection is disposing its mailbox refuses every item and nothing changes. -/
theorem connEnqueue_disposing (g : Gw) (cid : Nat) (it : KItem)
    (h : ((g.conns.find? (·.cid == cid)).getD default).disposing = true) :
    (connEnqueue cid it).run g = (false, g) := by
  rw [connEnqueue, run_bind, run_getConn, if_pos (show (connOf g cid).disposing = true from h)]
  rfl

theorem found_cid (g : Gw) (cid : Nat) (c : Conn) (h : g.conns.find? (·.cid == cid) = some c) : c.cid = cid := by
  have := List.find?_some h
  simpa using this

end Resgate.Gw
