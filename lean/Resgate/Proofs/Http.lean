import Resgate.Model.Http
import Resgate.Proofs.KV

namespace Resgate

theorem isDirectStatus_iff (s : Int) : isDirectStatus (some s) = true ↔ 300 ≤ s ∧ s < 600 := by
  simp [isDirectStatus]

theorem isValidStatus_iff (s : Int) : isValidStatus (some s) = true ↔ 300 ≤ s ∧ s < 600 := by
  simp [isValidStatus]

theorem errorStatus_default (code : String)
    (h : code ∉ ["system.notFound", "system.methodNotFound", "system.timeout", "system.accessDenied",
      "system.methodNotAllowed", "system.internalError", "system.serviceUnavailable",
      "system.forbidden", "system.subjectTooLong"]) : errorStatus code = 400 := by
  simp only [List.mem_cons, List.not_mem_nil, or_false, not_or] at h
  simp [errorStatus, h]

theorem hdrGet_hdrSet (h : Headers) (k k' : Bytes) (v : List Bytes) :
    hdrGet (hdrSet h k v) k' = if k = k' then some v else hdrGet h k' :=
  kvGet_kvSet h k k' v

/-- C17 `merge_protects`: whatever a service puts into its meta header, merging never changes the
    five protected entries of the response header. -/
theorem merge_protects (a b : Headers) (k : Bytes) (hk : k ∈ protectedNames) :
    hdrGet (mergeHeader a b) k = hdrGet a k := by
  induction b generalizing a with
  | nil => rfl
  | cons p ps ih =>
    obtain ⟨k', v⟩ := p
    rw [mergeHeader]
    split
    · exact ih a
    · next hnp =>
      have hne : k' ≠ k := fun e => hnp (by simpa [e] using hk)
      split <;> rw [ih, hdrGet_hdrSet, if_neg hne]

theorem set_cookie_accumulates (a : Headers) (v : List Bytes) :
    hdrGet (mergeHeader a [(hSetCookie, v)]) hSetCookie
      = some ((hdrGet a hSetCookie).getD [] ++ v) := by
  have hnp : protectedNames.contains hSetCookie = false := by decide
  simp only [mergeHeader, hnp, Bool.false_eq_true, if_false, if_true]
  rw [hdrGet_hdrSet, if_pos rfl]

/-- The two ranges of letters are disjoint and 32 apart. -/
theorem letter_cases (c : Nat) :
    (isUpper c = true ∧ isLower c = false ∧ isLower (c + 32) = true ∧ isUpper (c + 32) = false) ∨
    (isLower c = true ∧ isUpper c = false ∧ isUpper (c - 32) = true ∧ c - 32 + 32 = c) ∨
    (isUpper c = false ∧ isLower c = false) := by
  grind [isUpper, isLower]

theorem toUpper_toLower (c : Nat) : toUpperByte (toLowerByte c) = toUpperByte c := by
  rcases letter_cases c with h | h | h <;> simp [toUpperByte, toLowerByte, h]

theorem toLower_toLower (c : Nat) : toLowerByte (toLowerByte c) = toLowerByte c := by
  rcases letter_cases c with h | h | h <;> simp [toLowerByte, h]

theorem toLower_toUpper (c : Nat) : toLowerByte (toUpperByte c) = toLowerByte c := by
  rcases letter_cases c with h | h | h <;> simp [toUpperByte, toLowerByte, h]

theorem isTokenByte_lower (c : Nat) : isTokenByte (toLowerByte c) = isTokenByte c := by
  rcases letter_cases c with h | h | h
  · simp [isTokenByte, toLowerByte, h]
  · simp [toLowerByte, h]
  · simp [toLowerByte, h]

@[simp] theorem toLowerASCII_cons (c : Nat) (cs : Bytes) :
    toLowerASCII (c :: cs) = toLowerByte c :: toLowerASCII cs := rfl

theorem canonLoop_lower (u : Bool) (k : Bytes) :
    canonLoop u (toLowerASCII k) = canonLoop u k := by
  induction k generalizing u with
  | nil => rfl
  | cons c cs ih => cases u <;> simp [canonLoop, toLower_toLower, toUpper_toLower, ih]

theorem toLowerASCII_canonLoop (u : Bool) (k : Bytes) :
    toLowerASCII (canonLoop u k) = toLowerASCII k := by
  induction k generalizing u with
  | nil => rfl
  | cons c cs ih => cases u <;> simp [canonLoop, toLower_toLower, toLower_toUpper, ih]

theorem toLowerASCII_canonicalMIME (k : Bytes) :
    toLowerASCII (canonicalMIME k) = toLowerASCII k := by
  unfold canonicalMIME
  split
  · exact toLowerASCII_canonLoop true k
  · rfl

theorem all_token_lower (k : Bytes) : (toLowerASCII k).all isTokenByte = k.all isTokenByte := by
  simp only [toLowerASCII, List.all_map, Function.comp_def, isTokenByte_lower]

/-- The names canonicalised to a token in canonical form are its spellings in any letter case. -/
theorem canonicalMIME_eq_iff (k p : Bytes) (ht : p.all isTokenByte = true) (hc : canonLoop true p = p) :
    canonicalMIME k = p ↔ toLowerASCII k = toLowerASCII p := by
  constructor
  · rintro rfl
    exact (toLowerASCII_canonicalMIME k).symm
  · intro heq
    have htok : k.all isTokenByte = true := by rw [← all_token_lower, heq, all_token_lower, ht]
    rw [canonicalMIME, if_pos htok, ← canonLoop_lower, heq, canonLoop_lower, hc]

/-- The names `MergeHeader` treats specially. -/
def mergeKnown : List Bytes := hSetCookie :: protectedNames

theorem mergeKnown_canonical : ∀ p ∈ mergeKnown,
    p.all isTokenByte = true ∧ canonLoop true p = p := by decide

/-- C17: every spelling of a protected header name (any letter case) is canonicalised to exactly
    the protected key, hence never merged. -/
theorem canon_protected (k p : Bytes) (hp : p ∈ protectedNames)
    (heq : toLowerASCII k = toLowerASCII p) : canonicalMIME k = p :=
  have ⟨ht, hc⟩ := mergeKnown_canonical p (List.mem_cons_of_mem _ hp)
  (canonicalMIME_eq_iff k p ht hc).mpr heq

/-- `canonicalMIME k == q`, decided for the names of `mergeKnown` by comparing lower-case forms:
    the check the table of sampled header names is evaluated with (C17 `mergeProtectedTbl_agrees`).
    Nearly all sampled names are spellings of these six, for which the canonical form is a theorem
    and need not be computed; and the kernel runs `canonLoop` (a flag threaded through the
    recursion) several times slower than the plain `map` of `toLowerASCII`. -/
def canonAgrees (k q : Bytes) : Bool :=
  if mergeKnown.contains q then toLowerASCII k == toLowerASCII q else canonicalMIME k == q

theorem canonAgrees_eq (k q : Bytes) : canonAgrees k q = (canonicalMIME k == q) := by
  unfold canonAgrees
  split
  next h =>
    obtain ⟨ht, hc⟩ := mergeKnown_canonical q (List.contains_iff_mem.mp h)
    rw [Bool.eq_iff_iff, beq_iff_eq, beq_iff_eq]
    exact (canonicalMIME_eq_iff k q ht hc).symm
  next => rfl

/-- C17 `origin_spec` for one allow-list entry (entries are lower-cased by the configuration). -/
theorem originMatch_iff (s o : Bytes) (hs : toLowerASCII s = s) :
    originMatch s o = true ↔ s = toLowerASCII o := by
  fun_induction originMatch s o with
  | case1 => simp [toLowerASCII]
  | case2 => simp [toLowerASCII]
  | case3 => simp [toLowerASCII]
  | case4 sc s tc t ih =>
    rw [toLowerASCII_cons, List.cons.injEq] at hs
    simp only [Bool.and_eq_true, Bool.or_eq_true, decide_eq_true_eq, ih hs.2, toLowerASCII_cons,
      List.cons.injEq]
    -- a byte of the entry that equals `tc` is its own lower-case form, hence that of `tc`
    exact and_congr_left' (or_iff_right_of_imp fun e => e ▸ hs.1.symm)

theorem matchesOrigins_iff (os : List Bytes) (o : Bytes) (hos : ∀ s ∈ os, toLowerASCII s = s) :
    matchesOrigins os o = true ↔ toLowerASCII o ∈ os := by
  rw [matchesOrigins, List.any_eq_true]
  constructor
  · rintro ⟨s, hs, hm⟩
    exact (originMatch_iff s o (hos s hs)).1 hm ▸ hs
  · exact fun h => ⟨_, h, (originMatch_iff _ o (hos _ h)).2 rfl⟩

end Resgate
