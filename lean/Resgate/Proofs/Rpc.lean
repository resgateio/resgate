import Resgate.Proofs.Rid
import Resgate.Model.HttpDispatch

namespace Resgate

/-- What the dispatcher guarantees about a request it hands on. -/
theorem rpcDispatch_req {m : Bytes} {k : RpcKind} {rid method : Bytes}
    (h : rpcDispatch m = .req k rid method) :
    isValidRID rid true = true ∧
    ((k = .call ∨ k = .auth) → isValidRIDPart method = true) := by
  unfold rpcDispatch at h
  repeat' split at h
  -- of the branches only three hand a request on: call, auth, and the kinds without a method
  all_goals cases h
  · rename_i hv
    rw [Bool.and_eq_true] at hv
    exact ⟨hv.2, fun _ => hv.1⟩
  · rename_i hv
    rw [Bool.and_eq_true] at hv
    exact ⟨hv.2, fun _ => hv.1⟩
  · rename_i hc ha _ _ hv
    exact ⟨hv, fun hk => (hk.elim hc ha).elim⟩

/-- No request of the dispatcher reaches the gateway unless the method string has a dot. -/
theorem rpcDispatch_no_dot {m : Bytes} (h : cDot ∉ m) :
    rpcDispatch m = .version ∨ rpcDispatch m = .invalid := by
  rw [rpcDispatch, cutAt_no_sep h]
  dsimp only
  split <;> simp

def sPrefixOK (p : Bytes) : Prop := nameOK p = true

/-- From validity alone: whatever resource id (and method) passes the validators yields hygienic
    subjects — this is what the HTTP handlers rely on after `PathToRID` / `PathToRIDAction`. -/
theorem subjects_hygienic_of_valid (cid : Bytes) (hcid : cid.all okByte = true) (hne : cid ≠ [])
    (k : RpcKind) (rid method : Bytes) (hv : isValidRID rid true = true)
    (hm : (k = .call ∨ k = .auth) → isValidRIDPart method = true) :
    ∀ s ∈ subjectsFor cid k rid method, hygienic s = true := by
  have hn : nameOK (parseRID (expandCID cid rid)).1 = true := by
    rw [← isValidRID_expandCID true cid rid hcid hne, isValidRID_spec] at hv
    simpa [parseRID_fst] using hv
  have hmm : (k = .call ∨ k = .auth) → nameOK method = true := fun hk => nameOK_of_part (hm hk)
  rw [← List.all_eq_true]
  -- every subject is `word.name` or `word.name.method`, the words being fixed
  cases k <;>
    simp only [subjectsFor, List.all_cons, List.all_nil, hygienic_eq_nameOK, nameOK_append_dot, hn,
      hmm, true_or, or_true] <;>
    decide

/-- C14 `rpc_subjects_hygienic`: every subject used for a dispatched client request is hygienic. -/
theorem rpc_subjects_hygienic (m cid : Bytes) (hcid : cid.all okByte = true) (hne : cid ≠ [])
    (k : RpcKind) (rid method : Bytes) (h : rpcDispatch m = .req k rid method) :
    ∀ s ∈ subjectsFor cid k rid method, hygienic s = true :=
  subjects_hygienic_of_valid cid hcid hne k rid method (rpcDispatch_req h).1 (rpcDispatch_req h).2

/-! The leaves of `Enc.httpDispatch`: a get or a call, guarded by the validators. -/

section
variable (cid : Bytes) (hcid : cid.all okByte = true) (hne : cid ≠ [])
include hcid hne

theorem guarded_get_hygienic (rid : Bytes) :
    ∀ s ∈ Enc.httpSubjects cid (if isValidRID rid true then .get rid else .notFound),
      hygienic s = true := by
  by_cases hv : isValidRID rid true = true
  · rw [if_pos hv]
    exact subjects_hygienic_of_valid cid hcid hne .get rid [] hv (by simp)
  · rw [if_neg hv]
    exact fun _ h => nomatch h

theorem guarded_call_hygienic (rid a : Bytes) :
    ∀ s ∈ Enc.httpSubjects cid
        (if isValidRID rid true && isValidRIDPart a then .call rid a else .notFound),
      hygienic s = true := by
  by_cases hv : (isValidRID rid true && isValidRIDPart a) = true
  · rw [if_pos hv]
    rw [Bool.and_eq_true] at hv
    exact subjects_hygienic_of_valid cid hcid hne .call rid a hv.1 (fun _ => hv.2)
  · rw [if_neg hv]
    exact fun _ h => nomatch h

end

end Resgate
