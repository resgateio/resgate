import Resgate.Proofs.Populate

/-
The depth-first invariant of `populateF` (`Full`, with transitivity) and the one induction over the
fuel that proves it: what is newly placed in the resource set has its own entry there and every
reference delivered; later siblings only add.
-/

namespace Resgate.Gw

/-- The resource set has an entry (model, collection or error placeholder) for `rid`. -/
def RSet.has (r : RSet) (rid : String) : Bool :=
  (sget r.models rid).isSome || (sget r.colls rid).isSome || (sget r.errors rid).isSome

theorem isSome_sget_sset {β} (t : List (String × β)) (k k' : String) (v : β) :
    (sget (sset t k v) k').isSome = ((sget t k').isSome || decide (k' = k)) := by
  show (qget (qset t k v) k').isSome = _
  rw [qget_qset]
  split <;> simp [*]

theorem has_models (r : RSet) (k rid : String) (v : List (String × Val)) :
    ({ r with models := sset r.models k v } : RSet).has rid = (r.has rid || decide (rid = k)) := by
  simp only [RSet.has, isSome_sget_sset, Bool.or_right_comm _ (decide _)]

theorem has_colls (r : RSet) (k rid : String) (v : List Val) :
    ({ r with colls := sset r.colls k v } : RSet).has rid = (r.has rid || decide (rid = k)) := by
  simp only [RSet.has, isSome_sget_sset, ← Bool.or_assoc, Bool.or_right_comm _ (decide _)]

theorem has_errors (r : RSet) (k e rid : String) :
    ({ r with errors := sset r.errors k e } : RSet).has rid = (r.has rid || decide (rid = k)) := by
  simp only [RSet.has, isSome_sget_sset, Bool.or_assoc]

theorem rootSet_mono (s : Sub) (r : RSet) (rid : String) (h : r.has rid = true) :
    (rootSet s r).has rid = true := by
  unfold rootSet
  split <;> simp [has_models, has_colls, h]

theorem rootSet_has (s : Sub) (r : RSet) (h : s.typ = .model ∨ s.typ = .collection) :
    (rootSet s r).has s.rid = true := by
  unfold rootSet
  rcases h with h | h <;> simp [h, has_models, has_colls]

/-- `s'` is `s` further along in a collecting pass. -/
structure Sub.Le (s s' : Sub) : Prop where
  refs : s'.refs = s.refs
  err : s'.error = s.error
  rid : s'.rid = s.rid
  typ : s'.typ = s.typ
  vis : s.visited = true → s'.visited = true

theorem Sub.Le.refl (s : Sub) : s.Le s := ⟨rfl, rfl, rfl, rfl, id⟩

theorem Sub.Le.trans {s t u : Sub} (h1 : s.Le t) (h2 : t.Le u) : s.Le u :=
  ⟨h2.refs.trans h1.refs, h2.err.trans h1.err, h2.rid.trans h1.rid, h2.typ.trans h1.typ,
    fun h => h2.vis (h1.vis h)⟩

theorem Sub.le_bump (s : Sub) : s.Le { s with indirectsent := s.indirectsent + 1 } :=
  ⟨rfl, rfl, rfl, rfl, id⟩

theorem Sub.le_toSend {s : Sub} (h : s.error = none) : s.Le { s with state := .toSend } := by
  refine ⟨rfl, ?_, rfl, rfl, fun _ => rfl⟩
  rw [h]
  unfold Sub.error at h ⊢
  split at h
  · cases h
  · exact h

structure Grow (c : Conn) (r : RSet) (c' : Conn) (r' : RSet) : Prop where
  sub : ∀ v, (st c v).Le (st c' v)
  has : ∀ rid, r.has rid = true → r'.has rid = true

/-- Delivered with the set `r`: sent earlier or placed in it, or in error with the placeholder in it. -/
def Done (c : Conn) (r : RSet) (u : Nat) : Prop :=
  (st c u).visited = true ∨ (st c u).error.isSome = true ∧ r.has (st c u).rid = true

/-- What the set owes a subscription placed in it: an entry for its model or collection, and every
    reference delivered. -/
def Settled (c : Conn) (r : RSet) (v : Nat) : Prop :=
  (((st c v).typ = .model ∨ (st c v).typ = .collection) → r.has (st c v).rid = true) ∧
  ∀ ch ∈ (st c v).refs, Done c r ch.2.1

/-- The invariant of a (part of a) collection pass from `c`, `r` to `c'`, `r'`. -/
structure Full (c : Conn) (r : RSet) (c' : Conn) (r' : RSet) : Prop extends Grow c r c' r' where
  new : ∀ v, (st c v).visited = false → (st c' v).visited = true → Settled c' r' v

section
variable {a b c : Conn} {ra rb rc : RSet}

theorem Grow.refl : Grow a ra a ra := ⟨fun _ => .refl _, fun _ => id⟩

theorem Grow.trans (h1 : Grow a ra b rb) (h2 : Grow b rb c rc) : Grow a ra c rc :=
  ⟨fun v => (h1.sub v).trans (h2.sub v), fun rid h => h2.has rid (h1.has rid h)⟩

theorem Grow.done (h : Grow a ra b rb) {u : Nat} (hd : Done a ra u) : Done b rb u := by
  unfold Done
  rw [(h.sub u).err, (h.sub u).rid]
  exact hd.imp (h.sub u).vis (And.imp_right (h.has _))

theorem Grow.settled (h : Grow a ra b rb) {v : Nat} (hs : Settled a ra v) : Settled b rb v := by
  unfold Settled
  rw [(h.sub v).refs, (h.sub v).rid, (h.sub v).typ]
  exact ⟨fun ht => h.has _ (hs.1 ht), fun ch hch => h.done (hs.2 ch hch)⟩

/-- The depth-first step: what is marked on the way from `a` to `b` need only be settled at the
    end `c` of the pass that follows. -/
theorem Full.of_grow (h1 : Grow a ra b rb) (h2 : Full b rb c rc)
    (hnew : ∀ v, (st a v).visited = false → (st b v).visited = true → Settled c rc v) :
    Full a ra c rc := by
  refine ⟨h1.trans h2.toGrow, fun v ha hc => ?_⟩
  cases hb : (st b v).visited with
  | true => exact hnew v ha hb
  | false => exact h2.new v hb hc

theorem Full.trans (h1 : Full a ra b rb) (h2 : Full b rb c rc) : Full a ra c rc :=
  .of_grow h1.toGrow h2 fun v ha hb => h2.toGrow.settled (h1.new v ha hb)

/-- A step that marks nothing owes nothing. -/
theorem Grow.full (h : Grow a ra b rb) (hv : ∀ v, (st b v).visited = true → (st a v).visited = true) :
    Full a ra b rb :=
  ⟨h, fun v h1 h2 => by rw [hv v h2] at h1; cases h1⟩

theorem Full.refl : Full a ra a ra := Grow.refl.full fun _ => id

end

theorem grow_set (c : Conn) (uid : Nat) {s' : Sub} {r r' : RSet} (hs : (st c uid).Le s')
    (hr : ∀ rid, r.has rid = true → r'.has rid = true) :
    Grow c r { c with objs := tset c.objs uid s' } r' := by
  refine ⟨fun v => ?_, hr⟩
  rw [st_set]
  split
  · subst v; exact hs
  · exact .refl _

theorem full_bump (c : Conn) (uid : Nat) (r : RSet) (ind : Bool) : Full c r (bump c uid ind) r := by
  unfold bump
  split
  · refine Grow.full (grow_set c uid (Sub.le_bump _) fun _ => id) fun v => ?_
    rw [st_set]
    split
    · subst v
      -- `visited` does not look at the count: immediate once the subscription is a variable
      generalize st c uid = s
      exact id
    · exact id
  · exact .refl

/-- The full statement about one call of `populateF`: the invariant, and the root is delivered. -/
theorem populateF_full (fuel : Nat) : ∀ (c : Conn) (uid : Nat) (r : RSet) (ind : Bool),
    (populateF fuel c uid r ind).2.2 = true →
      Full c r (populateF fuel c uid r ind).1 (populateF fuel c uid r ind).2.1 ∧
      Done (populateF fuel c uid r ind).1 (populateF fuel c uid r ind).2.1 uid := by
  induction fuel with
  | zero => intro c uid r ind h; cases h
  | succ fuel ih =>
    intro c uid r ind hok
    rw [populateF_succ] at hok ⊢
    refine And.imp_left (full_bump c uid r ind).trans ?_
    generalize bump c uid ind = c1 at hok ⊢
    revert hok
    unfold populateBody
    split
    · next hv => exact fun _ => ⟨.refl, Or.inl hv⟩
    · split
      · next e he =>
        refine fun _ => ⟨Grow.full ⟨fun _ => .refl _, fun rid h => ?_⟩ fun _ => id, Or.inr ⟨?_, ?_⟩⟩
        · simp [has_errors, h]
        · simp [he]
        · simp [has_errors]
      · next he =>
        intro hok
        obtain ⟨-, hf, hch⟩ := foldl_flag (α := Conn × RSet × Bool) (β := String × Nat × Nat) (ok := (·.2.2))
          (R := fun a b => Full a.1 a.2.1 b.1 b.2.1) (Q := fun ch a => Done a.1 a.2.1 ch.2.1)
          (fun _ => .refl) Full.trans (fun h => h.toGrow.done)
          (fun a ch h => by
            simp only [Bool.and_eq_true] at h
            exact ⟨h.1, ih _ _ _ _ h.2⟩) _ _ hok
        -- before the fold only the root is marked: it is settled at the end, by its own entry and
        -- what the fold says of its children
        have hg := grow_set c1 uid (Sub.le_toSend he) (rootSet_mono (st c1 uid) r)
        refine ⟨.of_grow hg hf fun v h1 h2 => ?_, Or.inl ((hf.sub uid).vis (by rw [st_set, if_pos rfl]; rfl))⟩
        rw [st_set] at h2
        split at h2
        · subst v
          have g := (hg.trans hf.toGrow).sub uid
          unfold Settled
          rw [g.refs, g.rid, g.typ]
          exact ⟨fun ht => hf.has _ (rootSet_has _ r ht), fun ch h => hch ch ((mem_sortedRefs _ _).mpr h)⟩
        · rw [h1] at h2
          cases h2

/-- The connection half of the invariant, in the terms of `Ext` and `Closed`. -/
theorem Full.good {c c' : Conn} {r r' : RSet} (h : Full c r c' r') : Good c c' :=
  ⟨⟨fun v => (h.sub v).refs, fun v => (h.sub v).err, fun v => (h.sub v).vis⟩, fun v h1 h2 ch hch =>
    ((h.new v h1 h2).2 ch (by rw [(h.sub v).refs]; exact (mem_sortedRefs _ _).mp hch)).imp id And.left⟩

end Resgate.Gw
