import Resgate.Model.EncodeSpec

/-
The encoders of `Model/Encode.lean` print the expansion of `Model/EncodeSpec.lean`.  The list
functions on both sides are `List.mapM` over the members (joined with commas on the encoder side),
so the step from members to lists is a fact about `mapM`; the rest is one induction along the
expansion.
-/

namespace Resgate.Enc

theorem render_href_cons (rid pref : String) (rest : List (String × J)) :
    (J.obj (("href", .str (ridToPath rid pref)) :: rest)).render =
      href rid pref ++ (if rest.isEmpty then "" else "," ++ renderKVs rest) ++ "}" := by
  have h : "{\"href\":" = "{" ++ jsonStr "href" ++ ":" := by decide
  simp only [J.render, renderKVs, href, h, String.append_assoc]

theorem hrefJ_render (rid pref : String) : (hrefJ rid pref).render = href rid pref ++ "}" := by
  simp [hrefJ, render_href_cons]

/-- `wrapJ` prints what the encoders write around a referenced resource; `lit` is the encoders'
    literal for the member name. -/
theorem wrapJ_render (b : Bool) (rid pref kind lit : String) (c : J) (hk : lit = "," ++ jsonStr kind ++ ":") :
    (wrapJ b rid pref kind c).render =
      (if b then href rid pref else "") ++ (if b then lit else "") ++ c.render ++ (if b then "}" else "") := by
  cases b
  · simp [wrapJ]
  · simp [wrapJ, render_href_cons, renderKVs, hk, String.append_assoc]

theorem mapM_isSome {α β} (f : α → Option β) (l : List α) :
    (l.mapM f).isSome = l.all fun a => (f a).isSome := by
  induction l with
  | nil => rfl
  | cons a l ih =>
    rw [List.mapM_cons, List.all_cons, ← ih]
    cases f a <;> cases l.mapM f <;> rfl

theorem mapM_map {α β γ} (f : α → Option β) (r : β → γ) (l : List α) :
    (l.mapM fun a => (f a).map r) = (l.mapM f).map (List.map r) := by
  induction l with
  | nil => rfl
  | cons a l ih =>
    rw [List.mapM_cons, List.mapM_cons, ih]
    cases f a <;> cases l.mapM f <;> rfl

/-- A function that encodes the members of a list one by one with `f` and puts commas between
    the results (the shape of `encVals` and `encKVs`) is `mapM f` followed by `intercalate`. -/
theorem eq_mapM_intercalate {α} {F : List α → Option String} {f : α → Option String}
    (nil : F [] = some "") (single : ∀ a, F [a] = f a)
    (cons : ∀ a b l, F (a :: b :: l) =
      match f a, F (b :: l) with
      | some x, some y => some (x ++ "," ++ y)
      | _, _ => none) (l : List α) :
    F l = (l.mapM f).map (",".intercalate) := by
  induction l with
  | nil => exact nil
  | cons a l ih =>
    cases l with
    | nil =>
      rw [single, List.mapM_cons, List.mapM_nil]
      cases f a <;> rfl
    | cons b l =>
      rw [cons, ih]
      simp only [List.mapM_cons]
      cases f a with
      | none => rfl
      | some x =>
        cases f b with
        | none => rfl
        | some y =>
          cases l.mapM f with
          | none => rfl
          | some ys => exact congrArg some String.intercalate_cons_cons.symm

theorem intercalate_cons (s a : String) (l : List String) :
    s.intercalate (a :: l) = a ++ if l.isEmpty then "" else s ++ s.intercalate l := by
  cases l with
  | nil => simp
  | cons b l => simp [String.intercalate_cons_cons, String.append_assoc]

theorem renderVals_eq : renderVals = ",".intercalate ∘ List.map J.render := by
  funext vs
  induction vs with
  | nil => rfl
  | cons v rest ih => simp [renderVals, ih, intercalate_cons]

theorem renderKVs_eq :
    renderKVs = ",".intercalate ∘ List.map fun kv => jsonStr kv.1 ++ ":" ++ kv.2.render := by
  funext kvs
  induction kvs with
  | nil => rfl
  | cons kv rest ih => simp [renderKVs, ih, intercalate_cons, String.append_assoc]

section
variable {g : HGraph} {pref : String} {flat : Bool} {path : List String}

theorem encVals_eq_mapM (vs : List HVal) :
    encVals g pref flat path vs = (vs.mapM (encVal g pref flat path)).map (",".intercalate) :=
  eq_mapM_intercalate (by rw [encVals]) (fun _ => by rw [encVals]) (fun _ _ _ => by rw [encVals]; rfl) vs

theorem encKVs_eq_mapM (kvs : List (String × HVal)) :
    encKVs g pref flat path kvs =
      (kvs.mapM fun kv => (encVal g pref flat path kv.2).map fun a => jsonStr kv.1 ++ ":" ++ a).map
        (",".intercalate) := by
  refine eq_mapM_intercalate (by rw [encKVs]) (fun _ => by rw [encKVs]) (fun kv kv2 rest => ?_) kvs
  rw [encKVs]
  cases encVal g pref flat path kv.2 <;> cases encKVs g pref flat path (kv2 :: rest) <;> rfl

theorem expVals_eq_mapM (vs : List HVal) :
    expVals g pref flat path vs = vs.mapM (expVal g pref flat path) := by
  induction vs with
  | nil => rw [expVals]; rfl
  | cons v rest ih =>
    rw [expVals, ih, List.mapM_cons]
    cases expVal g pref flat path v <;> cases rest.mapM (expVal g pref flat path) <;> rfl

theorem expKVs_eq_mapM (kvs : List (String × HVal)) :
    expKVs g pref flat path kvs = kvs.mapM fun kv => (expVal g pref flat path kv.2).map (kv.1, ·) := by
  induction kvs with
  | nil => rw [expKVs]; rfl
  | cons kv rest ih =>
    rw [expKVs, ih, List.mapM_cons]
    cases expVal g pref flat path kv.2 <;>
      cases rest.mapM (fun kv => (expVal g pref flat path kv.2).map (kv.1, ·)) <;> rfl

variable (h : ∀ v, encVal g pref flat path v = (expVal g pref flat path v).map J.render)
include h

theorem encVals_render (vs : List HVal) :
    encVals g pref flat path vs = (expVals g pref flat path vs).map renderVals := by
  rw [encVals_eq_mapM, expVals_eq_mapM, renderVals_eq, ← Option.map_map, ← mapM_map, funext h]

theorem encKVs_render (kvs : List (String × HVal)) :
    encKVs g pref flat path kvs = (expKVs g pref flat path kvs).map renderKVs := by
  rw [encKVs_eq_mapM, expKVs_eq_mapM, renderKVs_eq, ← Option.map_map, ← mapM_map]
  simp only [h, Option.map_map]
  rfl

end

/-- Induction along the expansion: the encoders recurse from `path` to `rid :: path` only for a
    node `rid` of the graph that is not on `path`, and `offPath` decreases there. -/
theorem expansion_induction {g : HGraph} {motive : List String → Prop}
    (step : ∀ path, (∀ rid nd, lookup g rid = some nd → rid ∉ path → motive (rid :: path)) → motive path)
    (path : List String) : motive path := by
  generalize hn : offPath g path = n
  induction n using Nat.strongRecOn generalizing path with
  | _ n ih => exact step path fun rid nd hl hp => ih _ (hn ▸ offPath_lt g path rid nd hl hp) _ rfl

/-- **Refinement.** The byte-concatenating encoder prints exactly the structured expansion, for
    both encodings, every graph (cyclic or not), every path and prefix.  (`wrap = false` with the
    resource already on the path does not occur: the root is expanded with an empty path.) -/
theorem encSub_render (g : HGraph) (pref : String) (flat : Bool) (path : List String) :
    ∀ (rid : String) (wrap : Bool), (wrap = true ∨ rid ∉ path) →
      encSub g pref flat path rid wrap = (expSub g pref flat path rid wrap).map J.render := by
  induction path using expansion_induction (g := g) with
  | step path ih =>
    intro rid wrap hw
    rw [encSub, expSub]
    by_cases hp : rid ∈ path
    · obtain rfl := hw.resolve_right (not_not_intro hp)
      rw [dif_pos hp, dif_pos hp, Option.map_some, hrefJ_render]
      cases flat <;> rfl
    rw [dif_neg hp, dif_neg hp]
    -- both sides are a `match hl : lookup g rid with …`; `cases` abstracts the two at once
    cases hnd : lookup g rid with
    | none => rfl
    | some nd =>
      have hval : ∀ v, encVal g pref flat (rid :: path) v =
          (expVal g pref flat (rid :: path) v).map J.render := by
        intro v
        cases v with
        | ref r => rw [encVal, expVal]; exact ih rid nd hnd hp r true (Or.inl rfl)
        | soft r => rw [encVal, expVal, Option.map_some, hrefJ_render]
        | _ => rw [encVal, expVal]; rfl
      cases nd with
      | err e => exact congrArg some (wrapJ_render _ _ _ _ _ (.raw e) (by decide)).symm
      | model kvs =>
        simp only [encKVs_render hval]
        cases expKVs g pref flat (rid :: path) kvs with
        | none => rfl
        | some b =>
          simp only [Option.map, wrapJ_render _ _ _ "model" ",\"model\":" _ (by decide), J.render,
            String.append_assoc]
      | coll vs =>
        simp only [encVals_render hval]
        cases expVals g pref flat (rid :: path) vs with
        | none => rfl
        | some b =>
          simp only [Option.map, wrapJ_render _ _ _ "collection" ",\"collection\":" _ (by decide),
            J.render, String.append_assoc]

/-- `encSub_render` with the measure of the expansion made explicit. -/
theorem encSub_eq_render (g : HGraph) (pref : String) (flat : Bool) :
    ∀ (n : Nat) (path : List String), offPath g path = n → ∀ (rid : String) (wrap : Bool),
      (wrap = true ∨ rid ∉ path) →
      encSub g pref flat path rid wrap = (expSub g pref flat path rid wrap).map J.render :=
  fun _ path _ => encSub_render g pref flat path

/-- What GET returns is the printed expansion of the resource. -/
theorem encodeGET_eq_render (g : HGraph) (pref : String) (flat : Bool) (rid : String) :
    encodeGET g pref flat rid = (expandGET g pref flat rid).map J.render :=
  encSub_render g pref flat [] rid false (Or.inr List.not_mem_nil)

end Resgate.Enc
