import Resgate.Gw.Base

/-
Association lists as the gateway model uses them: `List.lookup` with the update-or-append of
`Gw.tset` / `Gw.qset` and the key filter of `Gw.qdel`, for any key type with a lawful `==`.
-/

namespace Resgate
section
universe u v
variable {κ : Type u} {β : Type v} [BEq κ]

theorem lookup_cons_ite (a k : κ) (b : β) (r : List (κ × β)) :
    List.lookup k ((a, b) :: r) = if k == a then some b else List.lookup k r := by
  rw [List.lookup_cons]; cases k == a <;> rfl

variable [LawfulBEq κ]

theorem any_key_eq_isSome_lookup (t : List (κ × β)) (k : κ) : t.any (·.1 == k) = (List.lookup k t).isSome := by
  induction t with
  | nil => rfl
  | cons p r ih =>
    rw [List.any_cons, ih, lookup_cons_ite, Bool.beq_comm]
    split <;> simp [*]

theorem lookup_map_val (f : κ → β → β) (t : List (κ × β)) (k : κ) :
    List.lookup k (t.map fun p => (p.1, f p.1 p.2)) = (List.lookup k t).map (f k) := by
  induction t with
  | nil => rfl
  | cons p r ih =>
    obtain ⟨a, b⟩ := p
    rw [List.map_cons, lookup_cons_ite, lookup_cons_ite, ih]
    by_cases hk : k = a <;> simp [hk]

theorem lookup_upsert (t : List (κ × β)) (k k' : κ) (v : β) :
    List.lookup k' (if t.any (·.1 == k) then t.map (fun p => if p.1 == k then (k, v) else p)
      else t ++ [(k, v)]) = if k' == k then some v else List.lookup k' t := by
  -- the replacement keeps every key: it is a map on the values
  have hf : (fun p : κ × β => if p.1 == k then (k, v) else p) =
      fun p => (p.1, if p.1 == k then v else p.2) := by
    funext p
    by_cases h : p.1 = k <;> simp [h]
  rw [any_key_eq_isSome_lookup, hf]
  cases h : List.lookup k t with
  | none => by_cases hk : k' = k <;> simp [List.lookup_append, lookup_cons_ite, hk, h]
  | some b => by_cases hk : k' = k <;> simp [lookup_map_val fun a b => if a == k then v else b, hk, h]

theorem lookup_filter_key (q : κ → Bool) (t : List (κ × β)) (k : κ) :
    List.lookup k (t.filter fun p => q p.1) = if q k then List.lookup k t else none := by
  induction t with
  | nil => exact (ite_self none).symm
  | cons p r ih =>
    obtain ⟨a, b⟩ := p
    rw [List.filter_cons, lookup_cons_ite]
    by_cases hk : k = a
    · subst hk
      cases hq : q k <;> simp [hq, ih]
    · cases hq : q a <;> simp [lookup_cons_ite, hk, ih]
end
end Resgate

namespace Resgate.Gw

theorem tget_tset {β} [Inhabited β] (t : List (Nat × β)) (k k' : Nat) (v : β) :
    tget (tset t k v) k' = if k' = k then v else tget t k' := by
  unfold tget tset; rw [lookup_upsert]; split <;> simp_all

theorem qget_qset {β} (t : List (String × β)) (k k' : String) (v : β) :
    qget (qset t k v) k' = if k' = k then some v else qget t k' := by
  unfold qget qset; rw [lookup_upsert]; simp

theorem qget_qdel {β} (t : List (String × β)) (k k' : String) :
    qget (qdel t k) k' = if k' = k then none else qget t k' := by
  unfold qget qdel; rw [lookup_filter_key (· != k)]; simp
end Resgate.Gw
