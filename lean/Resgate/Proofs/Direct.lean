import Resgate.Gw.Pure

/-
The direct-subscription counter of one (connection, resource id) as a machine whose steps are the
gateway model's own decision functions (`addDirect`, `unsubVerdict`): it never leaves `0..limit`,
and equals "successful subscriptions minus successfully unsubscribed counts since the last
unsubscribe event".
-/

namespace Resgate.Direct
open Resgate.Gw

inductive Op where
  | subscribe                              -- subscribe / resource response that takes a direct count
  | unsubscribe (bad : Bool) (count : Int) -- client request
  | revoke                                 -- unsubscribe event (denial, delete): all direct counts go
  deriving Repr

inductive Out where
  | ok | limitExceeded | invalidParams | noSubscription | unsubscribeEvent
  deriving Repr, DecidableEq

def step (limit : Int) (d : Int) : Op → Int × Out
  | .subscribe =>
    match addDirect limit d with
    | some d' => (d', .ok)
    | none => (d, .limitExceeded)
  | .unsubscribe bad c =>
    match unsubVerdict bad c (some d) with
    | .ok => (d - c, .ok)
    | .invalidParams => (d, .invalidParams)
    | .noSubscription => (d, .noSubscription)
  | .revoke => (0, .unsubscribeEvent)

/-- The specification: a natural-number counter. -/
def spec (limit : Int) (n : Int) : Op → Int × Out
  | .subscribe => if n < limit then (n + 1, .ok) else (n, .limitExceeded)
  | .unsubscribe bad c =>
    if bad ∨ c ≤ 0 then (n, .invalidParams)
    else if c ≤ n then (n - c, .ok) else (n, .noSubscription)
  | .revoke => (0, .unsubscribeEvent)

theorem step_eq_spec (limit d : Int) (op : Op) : step limit d op = spec limit d op := by
  cases op with
  | subscribe =>
    simp only [step, spec, addDirect, ge_iff_le, ← Int.not_lt, ite_not]
    by_cases h : d < limit <;> simp [h]
  | unsubscribe bad c =>
    simp only [step, spec, unsubVerdict, ← Int.not_le (a := c), ite_not]
    cases bad
    · by_cases h0 : c ≤ 0
      · simp [h0]
      · by_cases hd : c ≤ d <;> simp [h0, hd]
    · simp
  | revoke => rfl

def run (limit : Int) (d : Int) : List Op → Int × List Out
  | [] => (d, [])
  | op :: ops =>
    let (d1, o) := step limit d op
    let (d2, os) := run limit d1 ops
    (d2, o :: os)

theorem step_bounds (limit d : Int) (op : Op) (h0 : 0 ≤ d) (h1 : d ≤ limit) :
    0 ≤ (step limit d op).1 ∧ (step limit d op).1 ≤ limit := by
  rw [step_eq_spec]
  fun_cases spec limit d op <;> simp only <;> omega

/-- For every sequence of requests and unsubscribe events the count stays within `0..limit`. -/
theorem bounds (limit : Int) (hl : 0 ≤ limit) (ops : List Op) : ∀ d, 0 ≤ d → d ≤ limit →
    0 ≤ (run limit d ops).1 ∧ (run limit d ops).1 ≤ limit := by
  induction ops with
  | nil => exact fun d h0 h1 => ⟨h0, h1⟩
  | cons op ops ih =>
    intro d h0 h1
    have hs := step_bounds limit d op h0 h1
    exact ih _ hs.1 hs.2

end Resgate.Direct
