import Resgate.Gw.Pure

/-
The version-stamp mechanism (C01, C03): the resource stamps every event with the version it
targets and bumps the version for state events; a subscriber drops events whose stamp differs
from its own version and bumps on state events.  `snapshot_replay` is the statement that a
subscriber that joins at any point and reads the snapshot (value, version) at any later point ends
exactly at the resource's value and version.
-/

namespace Resgate.Snap

structure Ev (α : Type) where
  upd : Option α      -- some d : a state-changing event carrying d; none : custom event
  ver : Nat

/-- resource state: applied updates (stands for the value) and version -/
abbrev RS (α : Type) := List α × Nat

def RS.step {α} (s : RS α) (o : Option α) : RS α :=
  match o with
  | some d => (s.1 ++ [d], s.2 + 1)
  | none => s

/-- the resource emits a stamped stream (`handleEvent`: stamp with the current version, then apply) -/
def emit {α} : RS α → List (Option α) → List (Ev α)
  | _, [] => []
  | s, o :: os => ⟨o, s.2⟩ :: emit (s.step o) os

attribute [simp] emit

def RS.run {α} (s : RS α) (os : List (Option α)) : RS α := os.foldl RS.step s

@[simp] theorem RS.run_nil {α} (r : RS α) : r.run [] = r := rfl

@[simp] theorem RS.run_cons {α} (r : RS α) (o : Option α) (os : List (Option α)) :
    r.run (o :: os) = (r.step o).run os := rfl

theorem RS.run_append {α} (r : RS α) (xs ys : List (Option α)) :
    r.run (xs ++ ys) = (r.run xs).run ys := List.foldl_append ..

/-- subscriber: value, version, delivered events -/
structure Sub (α : Type) where
  val : List α
  ver : Nat
  delivered : List (Ev α)

/-- `processEvent`, written with the model's own gate function `Gw.subGate`. -/
def Sub.proc {α} (s : Sub α) (e : Ev α) : Sub α :=
  match Gw.subGate s.ver e.ver e.upd.isSome with
  | none => s
  | some v' =>
    match e.upd with
    | some d => ⟨s.val ++ [d], v', s.delivered ++ [e]⟩
    | none => ⟨s.val, v', s.delivered ++ [e]⟩

/-- On a matching stamp the subscriber does to its copy what the resource did to its own. -/
theorem Sub.proc_eq_step {α} (s : Sub α) (e : Ev α) :
    s.proc e = if s.ver = e.ver then
      ⟨(RS.step (s.val, s.ver) e.upd).1, (RS.step (s.val, s.ver) e.upd).2, s.delivered ++ [e]⟩ else s := by
  obtain ⟨o, V⟩ := e
  by_cases h : s.ver = V <;> cases o <;> simp [Sub.proc, Gw.subGate, RS.step, h]

def Sub.runEvs {α} (s : Sub α) (es : List (Ev α)) : Sub α := es.foldl Sub.proc s

@[simp] theorem Sub.runEvs_nil {α} (s : Sub α) : s.runEvs [] = s := rfl

@[simp] theorem Sub.runEvs_cons {α} (s : Sub α) (e : Ev α) (es : List (Ev α)) :
    s.runEvs (e :: es) = (s.proc e).runEvs es := rfl

theorem Sub.runEvs_append {α} (s : Sub α) (xs ys : List (Ev α)) :
    s.runEvs (xs ++ ys) = (s.runEvs xs).runEvs ys := List.foldl_append ..

/-- In sync: a subscriber holding exactly the resource's state follows the stream exactly. -/
theorem insync {α} (os : List (Option α)) (r : RS α) (d : List (Ev α)) :
    (Sub.runEvs ⟨r.1, r.2, d⟩ (emit r os)).val = (r.run os).1 ∧
    (Sub.runEvs ⟨r.1, r.2, d⟩ (emit r os)).ver = (r.run os).2 ∧
    (Sub.runEvs ⟨r.1, r.2, d⟩ (emit r os)).delivered = d ++ emit r os := by
  induction os generalizing r d with
  | nil => simp
  | cons o os ih => simp [Sub.proc_eq_step, ih]

theorem ver_mono {α} (os : List (Option α)) (r : RS α) : r.2 ≤ (r.run os).2 := by
  induction os generalizing r with
  | nil => exact Nat.le_refl _
  | cons o os ih =>
    cases o with
    | none => exact ih r
    | some a => exact Nat.le_of_succ_le (ih (r.step (some a)))

/-- Every update was stamped below the version the resource ends with: an event that carries the
    final version is a custom event. -/
theorem emit_final_custom {α} (os : List (Option α)) (r : RS α) :
    ∀ e ∈ emit r os, e.ver = (r.run os).2 → e.upd = none := by
  induction os generalizing r with
  | nil => simp
  | cons o os ih =>
    simp only [emit, List.mem_cons, RS.run_cons]
    rintro e (rfl | he) hv
    · have := ver_mono os (r.step o)
      cases o with
      | none => rfl
      | some a =>
        simp [RS.step] at this hv
        omega
    · exact ih _ e he hv

/-- Stale events: a subscriber that meets only custom events under its own version keeps value and
    version, and delivers exactly the events that carry its version. -/
theorem Sub.runEvs_stale {α} {es : List (Ev α)} {V : Nat} (h : ∀ e ∈ es, e.ver = V → e.upd = none)
    (v : List α) (d : List (Ev α)) :
    Sub.runEvs ⟨v, V, d⟩ es = ⟨v, V, d ++ es.filter (·.ver = V)⟩ := by
  induction es generalizing d with
  | nil => simp
  | cons e es ih =>
    obtain ⟨o, V'⟩ := e
    rw [List.forall_mem_cons] at h
    by_cases hv : V' = V
    · subst hv
      obtain rfl : o = none := h.1 rfl
      simp [Sub.proc_eq_step, RS.step, ih h.2]
    · simp [Sub.proc_eq_step, Ne.symm hv, ih h.2, hv]

theorem emit_append {α} (r : RS α) (xs ys : List (Option α)) :
    emit r (xs ++ ys) = emit r xs ++ emit (r.run xs) ys := by
  induction xs generalizing r with
  | nil => simp
  | cons o os ih => simp [ih]

/-- What was emitted before the snapshot (`mid`) is stale for the joiner, which holds the snapshot
    version (`emit_final_custom`, `Sub.runEvs_stale`); from the snapshot on it is in sync
    (`insync`). -/
theorem snapshot_replay {α} (r0 : RS α) (pre mid post : List (Option α)) :
    let rp := r0.run pre          -- subscriber added here
    let rq := rp.run mid          -- snapshot read here
    let rE := rq.run post
    let s := Sub.runEvs ⟨rq.1, rq.2, []⟩ (emit rp (mid ++ post))
    s.val = rE.1 ∧ s.ver = rE.2 ∧
    ∃ old, s.delivered = old ++ emit rq post ∧ ∀ e ∈ old, e.upd = none ∧ e.ver = rq.2 := by
  intro rp rq rE s
  have hs : s = Sub.runEvs ⟨rq.1, rq.2, (emit rp mid).filter (·.ver = rq.2)⟩ (emit rq post) := by
    simp [s, emit_append, Sub.runEvs_append, Sub.runEvs_stale (emit_final_custom mid rp), rq]
  obtain ⟨h1, h2, h3⟩ := insync post rq ((emit rp mid).filter (·.ver = rq.2))
  rw [hs]
  refine ⟨h1, h2, _, h3, fun e he => ?_⟩
  rw [List.mem_filter, decide_eq_true_eq] at he
  exact ⟨emit_final_custom mid rp e he.1 he.2, he.2⟩

end Resgate.Snap
