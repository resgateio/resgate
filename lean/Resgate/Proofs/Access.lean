import Resgate.Model.Pattern
import Resgate.Proofs.Split

namespace Resgate

/-- The scanner invariant: with `cur` (comma-free) the part of the current entry already read,
    scanning the reversed rest decides membership in the entries of `rest ++ cur`. -/
theorem callScan_spec (action : Bytes) (r cur : Bytes) (hcur : cComma ∉ cur) :
    callScan action r cur = true ↔ action ∈ splitOn cComma (r.reverse ++ cur) := by
  induction r generalizing cur with
  | nil => simp [callScan, splitOn_no_sep hcur, eq_comm]
  | cons c rest ih =>
    simp only [callScan, List.reverse_cons, List.append_assoc, List.singleton_append]
    by_cases hc : c = cComma
    · subst hc
      rw [if_pos rfl, splitOn_append_sep, splitOn_no_sep hcur]
      by_cases hca : cur = action
      · simp [hca]
      · simp [hca, Ne.symm hca, ih [] (by simp)]
    · rw [if_neg hc]
      exact ih _ (by simp [hcur, Ne.symm hc])

theorem canCall_spec (call action : Bytes) :
    canCall call action = true ↔
      call = [cStar] ∨ (call ≠ [] ∧ action ∈ splitOn cComma call) := by
  unfold canCall
  by_cases h1 : call = [cStar]
  · simp [h1]
  by_cases h2 : call = []
  · simp [h2]
  simpa [h1, h2] using callScan_spec action call.reverse [] (by simp)

end Resgate
