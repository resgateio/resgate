import Resgate.Model.Nats

namespace Resgate.Nats

theorem run_done (is : List In) : run .done is = (.done, []) := by
  induction is with
  | nil => rfl
  | cons i is ih => simp [run, step, ih]

theorem step_cases (s : St) (i : In) : (step s i).2 = none ∨ ∃ c, step s i = (.done, some c) := by
  fun_cases step s i <;> simp

/-- For every sequence of replies, pre-responses and timer fires: the completion callback is
    invoked at most once. -/
theorem at_most_once (s : St) (is : List In) : (run s is).2.length ≤ 1 := by
  induction is generalizing s with
  | nil => simp [run]
  | cons i is ih =>
    simp only [run]
    rcases step_cases s i with h | ⟨c, h⟩
    · rw [h]; simpa using ih _
    · rw [h]; simp [run_done]

/-- Once completed, nothing further is ever delivered (never both a reply and a timeout). -/
theorem done_is_final (is : List In) : (run .done is).2 = [] := by rw [run_done]

/-- A pending request always has exactly one live timer that can complete it: either its queue
    slot or the extended timer of the current generation. -/
theorem live_timer_completes (t : Timer) (g : Nat) :
    (match t with
     | .queue => step (.pending t g) .fireQueue
     | .extended k => step (.pending t g) (.fireExtended k)) = (.done, some .timeout) := by
  cases t <;> simp [step]

/-- The first actual reply wins; a no-responders status yields notFound. -/
theorem first_reply_wins (t : Timer) (g : Nat) :
    step (.pending t g) .reply = (.done, some .reply) ∧
    step (.pending t g) .noResponders = (.done, some .notFound) := by
  cases t <;> exact ⟨rfl, rfl⟩

/-- The guard is exact: a request is refused iff its control line would not fit. -/
theorem guard_spec (n d : Nat) : requestRefused n d = true ↔ pubArgLen n d > maxControlLine := by
  simp [requestRefused]

/-- … hence whatever passes the guard fits the server's control line. -/
theorem guard_sound (n d : Nat) (h : requestRefused n d = false) : pubArgLen n d ≤ maxControlLine := by
  simp [requestRefused] at h; omega

/-- The guard before the repair did not bound what the server measures (D6, fixed): a subject of
    4066 bytes passed it although `subject SP reply SP size` has 4098 bytes. -/
theorem old_guard_counterexample : requestRefusedOld 4066 = false ∧ pubArgLen 4066 1 > maxControlLine := by
  decide

end Resgate.Nats
