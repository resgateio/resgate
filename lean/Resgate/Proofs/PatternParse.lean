import Resgate.Proofs.Pattern
import Resgate.Proofs.Split

/-
`ParseResourcePattern`, token by token.  With the pattern cut at its dots, the loop accepts exactly
the well-formed token lists and reports whether one of the tokens is a wildcard
(`parsePatAux_tailOf`); `tailOf_splitOn` carries this to byte strings, which gives `parsePattern` on
every input (`parsePattern_eq`).
-/

namespace Resgate

/-- The test `tokOK` applies to every byte of a literal token. -/
def litByte (c : Nat) : Bool := 33 ≤ c && c ≤ 126 && c != cQm && c != cStar && c != cGt && c != cDot

theorem litByte_iff {c : Nat} :
    litByte c = true ↔ 33 ≤ c ∧ c ≤ 126 ∧ c ≠ cQm ∧ c ≠ cStar ∧ c ≠ cGt ∧ c ≠ cDot := by
  simp only [litByte, Bool.and_eq_true, decide_eq_true_eq, bne_iff_ne, ne_eq, and_assoc]

theorem litByte_gt : litByte cGt = false := rfl

theorem litByte_star : litByte cStar = false := rfl

def isWildTok (t : Bytes) : Bool := t = [cStar] || t = [cGt]

theorem tokOK_eq (last : Bool) (t : Bytes) :
    tokOK last t = (!t.isEmpty && (t = [cStar] || (t = [cGt] && last) || t.all litByte)) := rfl

theorem patTokensOK_cons (t : Bytes) (ts : List Bytes) :
    patTokensOK (t :: ts) = (tokOK ts.isEmpty t && (ts.isEmpty || patTokensOK ts)) := by
  cases ts <;> simp [patTokensOK]

theorem isWildTok_of_lit {t : Bytes} (h : t.all litByte = true) : isWildTok t = false := by
  simp only [isWildTok, Bool.or_eq_false_iff, decide_eq_false_iff_not]
  constructor <;> rintro rfl <;> exact absurd h (by decide)

theorem patTokensOK_cases {pt : Bytes} {pts : List Bytes} (h : patTokensOK (pt :: pts) = true) :
    (pts = [] ∨ patTokensOK pts = true) ∧
      (pt = [cStar] ∨ (pt = [cGt] ∧ pts = []) ∨ pt.all litByte = true) := by
  simp only [patTokensOK_cons, tokOK_eq, Bool.and_eq_true, Bool.or_eq_true, decide_eq_true_eq,
    List.isEmpty_iff] at h
  exact ⟨h.2, or_assoc.mp h.1.2⟩

theorem parsePatAux_dot (start alone hw : Bool) (cs : Bytes) :
    parsePatAux start alone hw (cDot :: cs) =
      if start then none else parsePatAux true false hw cs := by
  simp [parsePatAux]

theorem parsePatAux_cons {c : Nat} (hc : c ≠ cDot) (start alone hw : Bool) (cs : Bytes) :
    parsePatAux start alone hw (c :: cs) =
      if alone then none
      else if c = cGt then (if start && cs.isEmpty then some true else none)
      else if c = cStar then (if start then parsePatAux false true true cs else none)
      else if litByte c then parsePatAux false false hw cs else none := by
  rw [parsePatAux, if_neg hc]
  cases alone with
  | true => rfl
  | false =>
    by_cases hg : c = cGt
    · subst hg
      cases start <;> cases cs <;> rfl
    by_cases hs : c = cStar
    · subst hs
      cases start <;> rfl
    have hl : litByte c = true ↔
        ¬(false || decide (c < 33) || decide (c > 126) || decide (c = cQm)) = true := by
      simp [litByte_iff, hc, hg, hs, and_assoc]
    simp only [hg, hs, hl, Bool.false_eq_true, if_false, ite_not]

theorem parsePatAux_lit {t : Bytes} (ht : cDot ∉ t) (hw : Bool) (tl : Bytes) :
    parsePatAux false false hw (t ++ tl) =
      if t.all litByte then parsePatAux false false hw tl else none := by
  induction t with
  | nil => rfl
  | cons c t ih =>
    simp only [List.mem_cons, not_or] at ht
    rw [List.cons_append, parsePatAux_cons (Ne.symm ht.1), ih ht.2]
    by_cases hl : litByte c = true
    · obtain ⟨-, -, -, hs, hg, -⟩ := litByte_iff.mp hl
      simp [hl, hs, hg]
    · simp [hl]

/-- A whole token, from its first byte: it passes iff it is well formed, and leaves the loop at the
    tail behind it. -/
theorem parsePatAux_tok {c : Nat} {t : Bytes} (ht : cDot ∉ c :: t) (hw : Bool) (tl : Bytes) :
    parsePatAux true false hw (c :: t ++ tl) =
      if tokOK tl.isEmpty (c :: t) then
        parsePatAux false (c :: t = [cStar]) (hw || isWildTok (c :: t)) tl
      else none := by
  simp only [List.mem_cons, not_or] at ht
  rw [List.cons_append, parsePatAux_cons (Ne.symm ht.1)]
  have hgs : cGt ≠ cStar := by decide
  by_cases hg : c = cGt
  · -- `>`: alone in its token, and nothing behind it
    subst hg
    cases t with
    | nil => cases tl <;> simp [tokOK_eq, isWildTok, parsePatAux, litByte_gt, hgs]
    | cons c' t => simp [tokOK_eq, litByte_gt, hgs]
  by_cases hs : c = cStar
  · -- `*`: alone in its token
    subst hs
    cases t with
    | nil => simp [tokOK_eq, isWildTok, hgs.symm]
    | cons c' t =>
      simp only [List.mem_cons, not_or] at ht
      simp [parsePatAux_cons (Ne.symm ht.2.1), tokOK_eq, litByte_star, hgs.symm]
  -- any other first byte must be literal, and so must the rest
  by_cases hl : litByte c = true
  · simp [hg, hs, hl, parsePatAux_lit ht.2, tokOK_eq, isWildTok]
  · simp [hg, hs, hl, tokOK_eq]

/-- From the end of a token, with well-separated tokens still to come and no dot at the very end,
    the loop succeeds iff the tokens are well formed, and reports whether one of them is a
    wildcard. -/
theorem parsePatAux_tailOf {pts : List Bytes} (hd : ∀ t ∈ pts, cDot ∉ t)
    (hl : (tailOf cDot pts).getLast? ≠ some cDot) (alone hw : Bool) :
    parsePatAux false alone hw (tailOf cDot pts) =
      if pts = [] ∨ patTokensOK pts = true then some (hw || pts.any isWildTok) else none := by
  induction pts generalizing alone hw with
  | nil => simp [parsePatAux]
  | cons t pts ih =>
    have hl' : (tailOf cDot pts).getLast? ≠ some cDot := by
      intro e
      simp [List.getLast?_cons, List.getLast?_append, e] at hl
    rw [tailOf_cons, List.cons_append, parsePatAux_dot]
    cases t with
    | nil =>
      cases pts with
      | nil => simp at hl
      | cons t' pts => simp [parsePatAux_dot, patTokensOK_cons, tokOK_eq]
    | cons c t =>
      rw [parsePatAux_tok (hd _ (by simp)), ih (fun t ht => hd t (by simp [ht])) hl']
      have he : (tailOf cDot pts).isEmpty = pts.isEmpty := by cases pts <;> rfl
      by_cases h : tokOK pts.isEmpty (c :: t) = true <;>
        simp [h, he, patTokensOK_cons, Bool.or_assoc]

theorem patTokensOK_append_nil (ts : List Bytes) : patTokensOK (ts ++ [[]]) = false := by
  induction ts with
  | nil => rfl
  | cons t ts ih => simp [patTokensOK_cons, ih]

/-- `ParseResourcePattern` on any byte string. -/
theorem parsePattern_eq (p : Bytes) :
    parsePattern p =
      if patTokensOK (splitOn cDot p) then ⟨p, (splitOn cDot p).any isWildTok⟩
      else Pattern.invalid := by
  unfold parsePattern
  split
  next h =>
    -- an empty last token
    rw [if_neg]
    simp only [Bool.or_eq_true, List.isEmpty_iff, decide_eq_true_eq, List.getLast?_eq_some_iff] at h
    obtain rfl | ⟨q, rfl⟩ := h
    · decide
    · simp [splitOn_append_sep, patTokensOK_append_nil]
  next h =>
    have hl : (tailOf cDot (splitOn cDot p)).getLast? ≠ some cDot := by
      cases p <;> simp_all [tailOf_splitOn]
    have := parsePatAux_tailOf (splitOn_tokens_no_sep cDot p) hl false false
    simp only [tailOf_splitOn, parsePatAux_dot, splitOn_ne_nil, false_or, Bool.false_or,
      Bool.false_eq_true, if_false] at this
    rw [this]
    by_cases hp : patTokensOK (splitOn cDot p) = true <;> simp [hp]

theorem ne_nil_of_patTokensOK {p : Bytes} (h : patTokensOK (splitOn cDot p) = true) : p ≠ [] := by
  rintro rfl
  exact absurd h (by decide)

theorem parse_valid_iff (p : Bytes) :
    (parsePattern p).isValid = true ↔ patTokensOK (splitOn cDot p) = true := by
  rw [parsePattern_eq]
  by_cases h : patTokensOK (splitOn cDot p) = true
  · simp [h, Pattern.isValid, ne_nil_of_patTokensOK h]
  · simp [h, Pattern.isValid, Pattern.invalid]

end Resgate
