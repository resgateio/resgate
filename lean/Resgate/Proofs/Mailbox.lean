import Resgate.Gw.Pure

/-
The mailbox of a cache entry over whole runs: normal items are run in the order they were
enqueued, each at most once and none skipped, whatever query-event locks come and go in between
and however unlock items arrive; and no normal item runs while a lock is active.  `pop` is the
model's own `mbNext`; `enq`, `arrive` and `lock` are the three functions through which the gateway
model writes to a mailbox (`Entry.push` in `cacheEnqueue`, `Entry.pushUnlock` in the unlock
callback of a query request, `Entry.lockFor` for `lockEvents`).
-/

namespace Resgate.Gw

/-! ### one worker step (`mbNext`, C03, C13) -/

/-- While a query-event lock is active no normal queue item runs. -/
theorem mbNext_locked (e : Entry) (h : e.locks.isSome = true) :
    ∀ it e', mbNext e ≠ .normal it e' := by
  intro it e'
  unfold mbNext
  split
  · simp
  · simp
  · simp_all

/-- Each unlock item uses one slot; the lock clears exactly when the last slot is used. -/
theorem mbNext_unlock (e : Entry) (cap st : Nat) (it : LItem) (rest : List (Nat × LItem))
    (h : e.locks = some (cap, (st, it) :: rest)) :
    mbNext e = .lock it { e with locks := if cap - 1 == 0 && rest.isEmpty then none else some (cap - 1, rest) } := by
  simp [mbNext, h]

theorem mbNext_fifo (e : Entry) (st : Nat) (it : CItem) (rest : List (Nat × CItem))
    (hl : e.locks = none) (hq : e.queue = (st, it) :: rest) :
    mbNext e = .normal it { e with queue := rest } := by
  simp [mbNext, hl, hq]

end Resgate.Gw

namespace Resgate.Gw.Mailbox

inductive Op where
  | enq (st : Nat) (it : CItem)
  | arrive (st : Nat) (li : LItem)
  | lock (n : Nat)
  | pop

structure MB where
  e : Entry
  ran : List CItem := []

def items (q : List (Nat × CItem)) : List CItem := q.map Prod.snd

def step (m : MB) : Op → MB
  | .enq st it => { m with e := m.e.push st it }
  | .arrive st li => { m with e := m.e.pushUnlock st li }
  | .lock n => { m with e := m.e.lockFor n }
  | .pop =>
    match mbNext m.e with
    | .normal it e' => { e := e', ran := m.ran ++ [it] }
    | .lock _ e' => { m with e := e' }
    | .idle => m

def enqueued : List Op → List CItem
  | [] => []
  | .enq _ it :: ops => it :: enqueued ops
  | _ :: ops => enqueued ops

theorem pop_unlock {m : MB} {cap st : Nat} {li : LItem} {rest : List (Nat × LItem)}
    (h : m.e.locks = some (cap, (st, li) :: rest)) :
    step m .pop = { m with e := { m.e with
      locks := if cap - 1 == 0 && rest.isEmpty then none else some (cap - 1, rest) } } := by
  simp only [step, mbNext_unlock m.e cap st li rest h]

theorem pop_waiting {m : MB} {cap : Nat} (h : m.e.locks = some (cap, [])) : step m .pop = m := by
  simp [step, mbNext, h]

/-- One step keeps "run so far, then waiting, then still to be enqueued"; stated with the remaining
    operations, it is the induction step of the run. -/
theorem step_spec (m : MB) (op : Op) (ops : List Op) :
    (step m op).ran ++ items (step m op).e.queue ++ enqueued ops
      = m.ran ++ items m.e.queue ++ enqueued (op :: ops) := by
  cases op with
  | enq st it => simp [step, items, enqueued, Entry.push]
  | arrive st li =>
    simp only [step, Entry.pushUnlock]
    split <;> rfl
  | lock n => rfl
  | pop =>
    simp only [step]
    fun_cases mbNext m.e <;> simp [items, enqueued, *]

theorem ran_step_of_locked (m : MB) (op : Op) (h : m.e.locks.isSome = true) :
    (step m op).ran = m.ran := by
  cases op with
  | pop =>
    simp only [step]
    cases hn : mbNext m.e with
    | normal it e' => exact absurd hn (mbNext_locked m.e h it e')
    | _ => rfl
  | _ => rfl

/-- Number of unlock items (answers of query requests) that arrive during `ops`. -/
def arrivals : List Op → Nat
  | [] => 0
  | .arrive _ _ :: ops => arrivals ops + 1
  | _ :: ops => arrivals ops

def noLock : List Op → Prop
  | [] => True
  | .lock _ :: _ => False
  | _ :: ops => noLock ops

/-- The lock holds `cap` slots of which `arr.length` have an answer waiting to be processed and
    `r` are still unanswered. -/
def Held (m : MB) (r : Nat) : Prop :=
  ∃ cap arr, m.e.locks = some (cap, arr) ∧ cap = arr.length + r

theorem Held.locked {m : MB} {r : Nat} (h : Held m r) : m.e.locks.isSome = true := by
  obtain ⟨_, _, hl, _⟩ := h
  simp [hl]

theorem held_lockFor (m : MB) (n : Nat) : Held { m with e := m.e.lockFor n } n :=
  ⟨n, [], rfl, by simp⟩

theorem held_arrive {m : MB} {r : Nat} (st : Nat) (li : LItem) (h : Held m (r + 1)) :
    Held (step m (.arrive st li)) r := by
  obtain ⟨cap, arr, hl, hc⟩ := h
  exact ⟨cap, arr ++ [(st, li)], by simp [step, Entry.pushUnlock, hl], by simp; omega⟩

/-- A worker step uses a slot only for an answer that has arrived, so the lock outlives it as long
    as one request is unanswered. -/
theorem held_pop {m : MB} {r : Nat} (hr : 0 < r) (h : Held m r) : Held (step m .pop) r := by
  obtain ⟨cap, arr, hl, hc⟩ := h
  cases arr with
  | nil =>
    rw [pop_waiting hl]
    exact ⟨cap, [], hl, hc⟩
  | cons x rest =>
    rw [List.length_cons] at hc
    rw [pop_unlock hl]
    exact ⟨cap - 1, rest, if_neg (by simp; omega), by omega⟩

/-- While fewer answers have arrived than query requests are unanswered (`r` remain after those of
    `ops`), the lock stays and no normal item is run — for every interleaving of enqueues, arriving
    answers and worker steps. -/
theorem run_held (ops : List Op) (m : MB) (r : Nat) (hop : noLock ops) (hr : 0 < r)
    (h : Held m (arrivals ops + r)) :
    Held (ops.foldl step m) r ∧ (ops.foldl step m).ran = m.ran := by
  induction ops generalizing m with
  | nil => exact ⟨by simpa [arrivals] using h, rfl⟩
  | cons op ops ih =>
    rw [List.foldl_cons, ← ran_step_of_locked m op h.locked]
    cases op with
    | enq st it => exact ih _ hop h
    | arrive st li => exact ih _ hop (held_arrive st li (by rwa [arrivals, Nat.add_right_comm] at h))
    | lock n => exact hop.elim
    | pop => exact ih _ hop (held_pop (by omega) h)

/-- Once every answer has arrived (as many wait as slots are left), processing them — one worker
    step each — ends the lock and changes nothing else: no normal item is run and the queue is
    untouched meanwhile, so the items that waited are resumed in their order by the next steps. -/
theorem pops_end_lock (rest : List (Nat × LItem)) (x : Nat × LItem) (m : MB)
    (hl : m.e.locks = some (rest.length + 1, x :: rest)) :
    (List.replicate (rest.length + 1) Op.pop).foldl step m
      = { m with e := { m.e with locks := none } } := by
  induction rest generalizing x m with
  | nil => simp [pop_unlock hl]
  | cons y rest ih =>
    have h1 : (step m .pop).e.locks = some (rest.length + 1, y :: rest) := by simp [pop_unlock hl]
    rw [List.length_cons, List.replicate_succ, List.foldl_cons, ih y _ h1, pop_unlock hl]

end Resgate.Gw.Mailbox
