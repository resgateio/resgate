import Resgate.Model.Rid
import Resgate.Proofs.Split

namespace Resgate

/-- Token-wise statement of a valid resource name: all tokens non-empty, all bytes `okByte`. -/
def nameOK (name : Bytes) : Bool :=
  (splitOn cDot name).all (fun t => !t.isEmpty && t.all okByte)

/-- The same for a suffix: `start` says the current token has no byte yet. -/
def restOK (start : Bool) (name : Bytes) : Bool :=
  (!start || !((splitOn cDot name).headD []).isEmpty) &&
  ((splitOn cDot name).headD []).all okByte &&
  (splitOn cDot name).tail.all (fun t => !t.isEmpty && t.all okByte)

theorem nameOK_eq_restOK (name : Bytes) : nameOK name = restOK true name := by
  obtain ⟨t, ts, h⟩ := List.exists_cons_of_ne_nil (splitOn_ne_nil cDot name)
  simp [nameOK, restOK, h, Bool.and_assoc]

theorem restOK_nil (start : Bool) : restOK start [] = !start := by
  simp [restOK]

theorem restOK_dot (start : Bool) (s : Bytes) : restOK start (cDot :: s) = (!start && nameOK s) := by
  simp [restOK, nameOK, splitOn_cons_sep]

theorem restOK_cons {c : Nat} (h : c ≠ cDot) (start : Bool) (s : Bytes) :
    restOK start (c :: s) = (okByte c && restOK false s) := by
  simp [restOK, splitOn_cons_ne h, Bool.and_assoc]

/-- A part may hold what a resource id may hold, except the two separators. -/
theorem partByteBad_eq (c : Nat) : partByteBad c = (ridByteBad c || c == cDot || c == cQm) := by
  simp only [partByteBad, ridByteBad]
  ac_rfl

/-- Loop invariant of `IsValidRID`. -/
theorem isValidRIDAux_spec (aq : Bool) (start : Bool) (s : Bytes) :
    isValidRIDAux aq start s =
      (restOK start (cutAt cQm s).1 && ((cutAt cQm s).2.isNone || aq)) := by
  induction s generalizing start with
  | nil => cases start <;> rfl
  | cons c cs ih =>
    unfold isValidRIDAux
    by_cases hq : c = cQm
    · cases start <;> simp [hq, cutAt, restOK_nil]
    · rw [cutAt_cons_ne hq]
      by_cases hd : c = cDot
      · subst hd
        have hb : ridByteBad cDot = false := by decide
        cases start <;> simp [hq, hb, ih, restOK_dot, nameOK_eq_restOK]
      · have hok : okByte c = !ridByteBad c := by
          simp [okByte, partByteBad_eq, beq_false_of_ne hq, beq_false_of_ne hd]
        cases hb : ridByteBad c <;> simp [hq, hd, hb, hok, ih, restOK_cons hd]

/-- C14 `validRID_spec`: `IsValidRID` accepts exactly the non-empty dot-separated tokens of
    `okByte`s, the query being everything after the first `?` (only when allowed). -/
theorem isValidRID_spec (rid : Bytes) (aq : Bool) :
    isValidRID rid aq = (nameOK (cutAt cQm rid).1 && ((cutAt cQm rid).2.isNone || aq)) := by
  rw [isValidRID, isValidRIDAux_spec, nameOK_eq_restOK]

/-- C14 `validPart_spec`. -/
theorem isValidRIDPart_spec (p : Bytes) :
    isValidRIDPart p = (!p.isEmpty && p.all okByte) :=
  Bool.and_comm ..

theorem isValidRIDAux_cons_ok {c : Nat} (hc : okByte c = true) (aq start : Bool) (s : Bytes) :
    isValidRIDAux aq start (c :: s) = isValidRIDAux aq false s := by
  simp [okByte, partByteBad_eq] at hc
  simp [isValidRIDAux, hc]

/-- A word of `okByte`s is skipped by the loop; unless it is empty, a token has begun. -/
theorem isValidRIDAux_skip {w : Bytes} (hw : w.all okByte = true) (aq start : Bool) (s : Bytes) :
    isValidRIDAux aq start (w ++ s) = isValidRIDAux aq (start && w.isEmpty) s := by
  induction w generalizing start with
  | nil => simp
  | cons c cs ih =>
    rw [List.all_cons, Bool.and_eq_true] at hw
    simp [isValidRIDAux_cons_ok hw.1, ih hw.2]

def sCidTag : Bytes := [123, 99, 105, 100, 125]

/-- The tag `{cid}` and the connection id that replaces it are both non-empty words of `okByte`s:
    the loop skips either and is in the same state behind it. -/
theorem isValidRIDAux_expandCID (aq : Bool) (cid : Bytes) (hcid : cid.all okByte = true)
    (hne : cid ≠ []) (start : Bool) (s : Bytes) :
    isValidRIDAux aq start (expandCID cid s) = isValidRIDAux aq start s := by
  fun_induction expandCID cid s generalizing start with
  | case1 rest ih =>
    rw [isValidRIDAux_skip hcid, ih,
      show 123 :: 99 :: 105 :: 100 :: 125 :: rest = sCidTag ++ rest from rfl,
      isValidRIDAux_skip (w := sCidTag) (by decide)]
    simp [List.isEmpty_eq_false_iff.mpr hne, sCidTag]
  | case2 c cs hnot ih => simp only [isValidRIDAux, ih]
  | case3 => rfl

theorem isValidRID_expandCID (aq : Bool) (cid rid : Bytes) (hcid : cid.all okByte = true)
    (hne : cid ≠ []) : isValidRID (expandCID cid rid) aq = isValidRID rid aq :=
  isValidRIDAux_expandCID aq cid hcid hne true rid

theorem parseRID_fst (rid : Bytes) : (parseRID rid).1 = (cutAt cQm rid).1 := by
  unfold parseRID
  split <;> simp [*]

theorem hygienic_eq_nameOK (s : Bytes) : hygienic s = nameOK s := rfl

theorem nameOK_append_dot (a b : Bytes) : nameOK (a ++ cDot :: b) = (nameOK a && nameOK b) := by
  unfold nameOK
  rw [splitOn_append_sep, List.all_append]

theorem nameOK_of_part {m : Bytes} (h : isValidRIDPart m = true) : nameOK m = true := by
  rw [isValidRIDPart_spec] at h
  have hnd : cDot ∉ m := fun hm => by
    have := List.all_eq_true.mp (Bool.and_eq_true_iff.mp h).2 cDot hm
    exact absurd this (by decide)
  unfold nameOK
  rw [splitOn_no_sep hnd]
  simpa using h

end Resgate
