import Resgate.Model.Basic

/-
Model of the HTTP resource encoders (`server/apiEncoding.go`): `encoderJSON` and `encoderJSONFlat`,
over an abstract resource graph, and of `RIDToPath` / `PathToRID` (with `url.PathEscape` /
`url.PathUnescape` in path-segment mode).

The Go encoders write bytes into a buffer while walking the subscription tree with a `path` stack;
here the walk builds the string directly.  `encSub` is defined by well-founded recursion on the
number of graph nodes not on the path: Lean accepting the definition IS the cycle-cutting argument.
-/

namespace Resgate.Enc

inductive HVal where
  | prim (raw : String)          -- primitive: raw JSON
  | data (inner : String)        -- data value: the wrapped JSON, emitted unwrapped
  | soft (rid : String)
  | ref (rid : String)
  deriving Repr, Inhabited, DecidableEq

inductive HNode where
  | err (json : String)                        -- failed reference: the encoded error
  | model (kvs : List (String × HVal))
  | coll (vs : List HVal)
  deriving Repr, Inhabited

abbrev HGraph := List (String × HNode)

def hexDigitU (n : Nat) : Char := if n < 10 then Char.ofNat (48 + n) else Char.ofNat (55 + n)

/-- `url.PathEscape` (encodePathSegment): unreserved characters and `$&+=:@` stay. -/
def escByte (b : UInt8) : String :=
  let c := Char.ofNat b.toNat
  if c.isAlphanum || c == '-' || c == '_' || c == '.' || c == '~' ||
     c == '$' || c == '&' || c == '+' || c == '=' || c == ':' || c == '@' then c.toString
  else "%" ++ (hexDigitU (b.toNat / 16)).toString ++ (hexDigitU (b.toNat % 16)).toString

def pathEscape (s : String) : String := String.join (s.toUTF8.toList.map escByte)

/-- `RIDToPath`. -/
def ridToPath (rid pref : String) : String :=
  if rid == "" then "" else pref ++ (pathEscape rid).replace "." "/"

/-- `json.Marshal` of a string (valid UTF-8): `encoding/json.appendString` with HTML escaping. -/
def jsonStr (s : String) : String :=
  "\"" ++ String.join (s.toList.map fun c =>
    if c == '"' then "\\\"" else if c == '\\' then "\\\\"
    else if c == '\n' then "\\n" else if c == '\r' then "\\r" else if c == '\t' then "\\t"
    else if c.toNat == 8 then "\\b" else if c.toNat == 12 then "\\f"
    else if c == '<' then "\\u003c" else if c == '>' then "\\u003e" else if c == '&' then "\\u0026"
    else if c.toNat == 0x2028 then "\\u2028" else if c.toNat == 0x2029 then "\\u2029"
    else if c.toNat < 32 then "\\u00" ++ (hexDigitU (c.toNat / 16)).toString.toLower ++ (hexDigitU (c.toNat % 16)).toString.toLower
    else c.toString) ++ "\""

def href (rid pref : String) : String := "{\"href\":" ++ jsonStr (ridToPath rid pref)

def lookup (g : HGraph) (rid : String) : Option HNode := (g.find? (·.1 == rid)).map (·.2)

/-- Nodes of the graph that are not on the current expansion path (the termination measure). -/
def offPath (g : HGraph) (path : List String) : Nat := (g.filter (fun p => decide (p.1 ∉ path))).length

theorem offPath_le (g : HGraph) (path : List String) (rid : String) :
    offPath g (rid :: path) ≤ offPath g path := by
  simp only [offPath, ← List.countP_eq_length_filter]
  exact List.countP_mono_left fun p _ h => by simp_all

theorem offPath_lt (g : HGraph) (path : List String) (rid : String) (n : HNode)
    (hl : lookup g rid = some n) (hp : rid ∉ path) :
    offPath g (rid :: path) < offPath g path := by
  obtain ⟨p, hf, -⟩ := Option.map_eq_some_iff.1 hl
  have hr : p.1 = rid := by simpa using List.find?_some hf
  -- the nodes off `rid :: path` are those off `path` other than `rid`, and the node found is one of these
  have : g.filter (fun p => decide (p.1 ∉ rid :: path)) =
      (g.filter fun p => decide (p.1 ∉ path)).filter fun p => decide (p.1 ≠ rid) := by
    simp [List.filter_filter]
  rw [offPath, this]
  exact List.length_filter_lt_length_iff_exists.2
    ⟨p, by simp [List.mem_of_find?_eq_some hf, hr, hp], by simp [hr]⟩

mutual

/-- `encodeSubscription` of the `json` (wrap = referenced) and `jsonflat` (flat) encoders.
    `none` = a reference that is not in the graph (the Go code would dereference nil). -/
def encSub (g : HGraph) (pref : String) (flat : Bool) (path : List String) (rid : String) (wrap : Bool) :
    Option String :=
  let open_ := if wrap && !flat then href rid pref else ""
  let close_ := if wrap && !flat then "}" else ""
  if hp : rid ∈ path then
    -- a reference that would re-enter a resource on the path: href only
    some (if flat then href rid pref ++ "}" else open_ ++ close_)
  else
    match hl : lookup g rid with
    | none => none
    | some (.err e) => some (open_ ++ (if wrap && !flat then ",\"error\":" else "") ++ e ++ close_)
    | some (.model kvs) =>
      match encKVs g pref flat (rid :: path) kvs with
      | none => none
      | some body => some (open_ ++ (if wrap && !flat then ",\"model\":" else "") ++ "{" ++ body ++ "}" ++ close_)
    | some (.coll vs) =>
      match encVals g pref flat (rid :: path) vs with
      | none => none
      | some body => some (open_ ++ (if wrap && !flat then ",\"collection\":" else "") ++ "[" ++ body ++ "]" ++ close_)
termination_by (offPath g path, 0, 0)
decreasing_by
  all_goals simp_wf
  · apply Prod.Lex.left; exact offPath_lt g path rid _ hl hp
  · apply Prod.Lex.left; exact offPath_lt g path rid _ hl hp

/-- `encodeValue`. -/
def encVal (g : HGraph) (pref : String) (flat : Bool) (path : List String) (v : HVal) : Option String :=
  match v with
  | .prim raw => some raw
  | .data inner => some inner
  | .soft rid => some (href rid pref ++ "}")
  | .ref rid => encSub g pref flat path rid true
termination_by (offPath g path, 1, 0)
decreasing_by
  all_goals simp_wf
  apply Prod.Lex.right; apply Prod.Lex.left; omega

def encVals (g : HGraph) (pref : String) (flat : Bool) (path : List String) (vs : List HVal) : Option String :=
  match vs with
  | [] => some ""
  | [v] => encVal g pref flat path v
  | v :: v2 :: rest =>
    match encVal g pref flat path v, encVals g pref flat path (v2 :: rest) with
    | some a, some b => some (a ++ "," ++ b)
    | _, _ => none
termination_by (offPath g path, 2, vs.length)
decreasing_by
  all_goals simp_wf
  · apply Prod.Lex.right; apply Prod.Lex.left; omega
  · apply Prod.Lex.right; apply Prod.Lex.left; omega
  · apply Prod.Lex.right; apply Prod.Lex.right; omega

def encKVs (g : HGraph) (pref : String) (flat : Bool) (path : List String) (kvs : List (String × HVal)) :
    Option String :=
  match kvs with
  | [] => some ""
  | [(k, v)] => (encVal g pref flat path v).map fun a => jsonStr k ++ ":" ++ a
  | (k, v) :: kv2 :: rest =>
    match encVal g pref flat path v, encKVs g pref flat path (kv2 :: rest) with
    | some a, some b => some (jsonStr k ++ ":" ++ a ++ "," ++ b)
    | _, _ => none
termination_by (offPath g path, 2, kvs.length)
decreasing_by
  all_goals simp_wf
  · apply Prod.Lex.right; apply Prod.Lex.left; omega
  · apply Prod.Lex.right; apply Prod.Lex.left; omega
  · apply Prod.Lex.right; apply Prod.Lex.right; omega

end

/-- `EncodeGET`. -/
def encodeGET (g : HGraph) (pref : String) (flat : Bool) (rid : String) : Option String :=
  encSub g pref flat [] rid false

/-! ### PathToRID -/

def hexVal? (c : Char) : Option Nat :=
  if '0' ≤ c ∧ c ≤ '9' then some (c.toNat - 48)
  else if 'a' ≤ c ∧ c ≤ 'f' then some (c.toNat - 87)
  else if 'A' ≤ c ∧ c ≤ 'F' then some (c.toNat - 55)
  else none

/-- `url.PathUnescape` on bytes: `%XX` decoded, a malformed escape is an error. -/
def pathUnescape : List Char → Option (List Nat)
  | [] => some []
  | '%' :: a :: b :: rest =>
    match hexVal? a, hexVal? b, pathUnescape rest with
    | some x, some y, some r => some ((x * 16 + y) :: r)
    | _, _, _ => none
  | '%' :: _ => none
  | c :: rest => (pathUnescape rest).map fun r => c.toString.toUTF8.toList.map (·.toNat) ++ r

end Resgate.Enc

namespace Resgate.Enc
open Resgate

/-- `url.PathUnescape` on bytes. -/
def unescapeB : Bytes → Option Bytes
  | [] => some []
  | 37 :: a :: b :: rest =>
    match hexVal? (Char.ofNat a), hexVal? (Char.ofNat b), unescapeB rest with
    | some x, some y, some r => if a < 128 ∧ b < 128 then some ((x * 16 + y) :: r) else none
    | _, _, _ => none
  | 37 :: _ => none
  | c :: rest => (unescapeB rest).map (c :: ·)

def isPrefixB : Bytes → Bytes → Bool
  | [], _ => true
  | _ :: _, [] => false
  | a :: as, b :: bs => a == b && isPrefixB as bs

/-- `if path[0] == '/' { path = path[1:] }` -/
def stripSlash : Bytes → Bytes
  | 47 :: rest => rest
  | p => p

/-- `PathToRID(path, query, prefix)`; the empty result stands for "no resource id" (404). -/
def pathToRID (path query pref : Bytes) : Bytes :=
  if path.length == pref.length || !isPrefixB pref path then []
  else
    let p := path.drop pref.length
    if p.contains cDot then []
    else
      let p := stripSlash p
      match (splitOn cSlash p).mapM unescapeB with
      | none => []
      | some parts =>
        let rid := joinWith cDot parts
        if query.isEmpty then rid else rid ++ cQm :: query

/-- `PathToRIDAction`: (rid, action). -/
def pathToRIDAction (path query pref : Bytes) : Bytes × Bytes :=
  if path.length == pref.length || !isPrefixB pref path then ([], [])
  else
    let p := path.drop pref.length
    if p.contains cDot then ([], [])
    else
      let p := stripSlash p
      let raw := splitOn cSlash p
      if raw.length < 2 then ([], [])
      else match raw.mapM unescapeB with
        | none => ([], [])
        | some parts =>
          let rid := joinWith cDot parts.dropLast
          ((if query.isEmpty then rid else rid ++ cQm :: query), parts.getLast?.getD [])

end Resgate.Enc

namespace Resgate.Enc
open Resgate

/-- `url.PathEscape` keeps these bytes (unreserved characters and `$&+=:@`). -/
def unreservedB (b : Nat) : Bool :=
  (48 ≤ b && b ≤ 57) || (65 ≤ b && b ≤ 90) || (97 ≤ b && b ≤ 122) ||
  b == 45 || b == 95 || b == 46 || b == 126 || b == 36 || b == 38 || b == 43 || b == 61 || b == 58 || b == 64

def hexU (n : Nat) : Nat := if n < 10 then 48 + n else 55 + n

def escB (b : Nat) : Bytes := if unreservedB b then [b] else [37, hexU (b / 16), hexU (b % 16)]

/-- `RIDToPath` on bytes: escape, then every dot becomes a slash. -/
def ridToPathB (rid pref : Bytes) : Bytes :=
  if rid.isEmpty then [] else pref ++ (rid.flatMap escB).map fun b => if b = cDot then cSlash else b

end Resgate.Enc
