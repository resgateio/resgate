import Resgate.Proofs.GwPure

/-
C04 — Read access gating.  Theorems: what counts as a grant, what is cached.  That data is only
handed out under a valid grant is NOT proved (false of the code: known finding D11) and is carried
by the lockstep correspondence and the grant monitor.
-/

namespace Resgate.C04
open Resgate Resgate.Gw

/-- Get access is granted iff the access answer has no error and `get` is true; any error is a
    denial with that error; a result without `get` is `system.accessDenied`. -/
theorem canGet_spec (a : Access) :
    (a.canGet = none ↔ a.err = none ∧ a.get = true) ∧
    (∀ e, a.err = some e → a.canGet = some e) ∧
    (a.err = none → a.get = false → a.canGet = some "system.accessDenied") :=
  Gw.canGet_spec a

/-- A verdict is stored on the subscription only for a result or `system.accessDenied`; a
    timeout, missing result or other error is never cached, so the next request asks again. -/
theorem verdict_stored_iff (a : Access) :
    storeVerdict a = true ↔ a.err = none ∨ a.err = some "system.accessDenied" :=
  Gw.storeVerdict_spec a

example : (⟨none, true, "*"⟩ : Access).canGet = none := by decide
example : (⟨some "system.timeout", false, ""⟩ : Access).canGet = some "system.timeout" := rfl
example : storeVerdict ⟨some "system.timeout", false, ""⟩ = false := by simp [storeVerdict]

/-- **A remembered verdict is the last one stored, and no trigger came after it.** For every
    history of access answers and invalidating triggers (token event on a connection that had a
    token, reaccess event, matching system reset — `handleReaccess` in each case), most recent
    first: the verdict a subscription remembers (`verdictAfter`, a fold of the `verdictStep` the
    model's connection actor applies) is `a` iff `a` was stored (an actual result or
    `system.accessDenied`), every later answer was one that is not stored (timeout, other errors),
    and **no trigger occurred since**. So data or a call served from the remembered verdict is
    served under an answer that is still valid (C04, C05), and after a trigger the next request
    asks the service again (C06). -/
theorem remembered_verdict_iff (h : List VEv) (a : Access) :
    verdictAfter h = some a ↔
      ∃ newer older, h = newer ++ VEv.answer a :: older ∧ storeVerdict a = true ∧
        ∀ e ∈ newer, ∃ b, e = VEv.answer b ∧ storeVerdict b = false := by
  constructor
  · intro hv
    induction h with
    | nil => cases hv
    | cons e rest ih =>
      cases e with
      | trigger => cases hv
      | answer b =>
        cases hb : storeVerdict b with
        | true =>
          simp only [verdictAfter, verdictStep, hb, if_true, Option.some.injEq] at hv
          exact ⟨[], rest, by rw [hv]; rfl, hv ▸ hb, by simp⟩
        | false =>
          simp only [verdictAfter, verdictStep, hb, Bool.false_eq_true, if_false] at hv
          obtain ⟨newer, older, rfl, hs, hn⟩ := ih hv
          exact ⟨.answer b :: newer, older, rfl, hs, by simpa [hb] using hn⟩
  · rintro ⟨newer, older, rfl, hs, hn⟩
    rw [Gw.verdictAfter_append _ _ hn]
    simp [verdictAfter, verdictStep, hs]

/-- After a trigger nothing is remembered, whatever came before. -/
theorem trigger_forgets (h : List VEv) : verdictAfter (VEv.trigger :: h) = none := rfl

end Resgate.C04
