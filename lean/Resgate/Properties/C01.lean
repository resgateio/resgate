import Resgate.Proofs.Version
import Resgate.Proofs.GwPure

/-
C01 — Subscribed resources converge to the state announced by the service.
Theorems carry the version mechanism that makes a late-joining subscriber converge; the gateway
model that uses these very functions is tied to the code by the lockstep correspondence (`rgh gw`).
The full composition (every client copy equals the announced state at quiescence) is NOT proved:
it is false of the code (known findings D1, D17) and is carried by monitors + correspondence only.
-/

namespace Resgate.C01
open Resgate Resgate.Snap

/-- A subscriber added at any point of a resource's event stream, which reads the snapshot
    (value, version) at any later point and then processes everything emitted since it was added,
    in order, through the version filter, ends with the resource's final value and version; from
    before the snapshot it delivers only custom events that already carry the snapshot version,
    and after it everything, in order.  For every stream and every pair of points. -/
theorem snapshot_replay {α} (r0 : RS α) (pre mid post : List (Option α)) :
    let rp := r0.run pre
    let rq := rp.run mid
    let rE := rq.run post
    let s := Sub.runEvs ⟨rq.1, rq.2, []⟩ (emit rp (mid ++ post))
    s.val = rE.1 ∧ s.ver = rE.2 ∧
    ∃ old, s.delivered = old ++ emit rq post ∧ ∀ e ∈ old, e.upd = none ∧ e.ver = rq.2 :=
  Resgate.Snap.snapshot_replay r0 pre mid post

/-- Any number of clients sharing one cached resource: whatever the points of the resource's stream
    `os` at which each of them was added (`c.1`) and read its snapshot (`c.2`), every one of them
    ends with the value and version the resource ends with — hence they all agree. -/
theorem all_sharers_converge {α} (r0 : RS α) (os : List (Option α)) (cuts : List (Nat × Nat)) :
    ∀ c ∈ cuts, c.1 ≤ c.2 → c.2 ≤ os.length →
      let pre := os.take c.1
      let mid := (os.drop c.1).take (c.2 - c.1)
      let post := os.drop c.2
      let rp := r0.run pre
      let rq := rp.run mid
      let s := Sub.runEvs ⟨rq.1, rq.2, []⟩ (emit rp (mid ++ post))
      s.val = (r0.run os).1 ∧ s.ver = (r0.run os).2 := by
  intro c _ h12 _
  have hpost : os.drop c.2 = (os.drop c.1).drop (c.2 - c.1) := by
    rw [List.drop_drop, Nat.add_sub_cancel' h12]
  have hrun : ((r0.run (os.take c.1)).run ((os.drop c.1).take (c.2 - c.1))).run (os.drop c.2)
      = r0.run os := by
    rw [← RS.run_append, ← RS.run_append, hpost, List.take_append_drop, List.take_append_drop]
  have := Resgate.Snap.snapshot_replay r0 (os.take c.1) ((os.drop c.1).take (c.2 - c.1)) (os.drop c.2)
  simp only [hrun] at this
  exact ⟨this.1, this.2.1⟩

/-- A subscriber that holds the resource's state follows every later stream exactly. -/
theorem insync {α} (os : List (Option α)) (r : RS α) (d : List (Ev α)) :
    (Sub.runEvs ⟨r.1, r.2, d⟩ (emit r os)).val = (r.run os).1 ∧
    (Sub.runEvs ⟨r.1, r.2, d⟩ (emit r os)).ver = (r.run os).2 ∧
    (Sub.runEvs ⟨r.1, r.2, d⟩ (emit r os)).delivered = d ++ emit r os :=
  Resgate.Snap.insync os r d

/-- The subscriber step of the lemma IS the gateway model's gate (`Gw.subGate`). -/
theorem gate_is_model (v stamp : Nat) (update : Bool) :
    (Gw.subGate v stamp update = none ↔ v ≠ stamp) ∧
    (v = stamp → Gw.subGate v stamp update = some (if update then v + 1 else v)) :=
  Gw.subGate_spec v stamp update

/-- The resource step of the lemma holds of the gateway model's event application: an accepted
    state event bumps the cached version by exactly one, is marked as an update and keeps the
    stamp it was given (the version it targets). -/
theorem cache_stamps_and_bumps {r r' : Gw.Res} {ev ev' : Gw.REv}
    (h : Gw.applyStateEvent r ev = some (r', ev')) :
    r'.version = r.version + 1 ∧ ev'.update = true ∧ ev'.version = ev.version ∧ ev'.name = ev.name := by
  rcases Gw.applyStateEvent_some h with
    ⟨_, _, _, _, rfl, rfl⟩ | ⟨_, _, _, _, _, _, _, rfl, rfl⟩ | ⟨_, _, _, _, _, _, rfl, rfl⟩ <;>
  exact ⟨rfl, rfl, rfl, rfl⟩

/-- Legacy (< 1.2.1) encoding of the four value kinds. -/
theorem legacy_encoding (n : Int) (rid : String) :
    (Gw.Val.prim n).show true = (Gw.Val.prim n).show false ∧
    (Gw.Val.ref rid).show true = (Gw.Val.ref rid).show false ∧
    (Gw.Val.soft rid).show true = s!"str:{rid}" ∧ (Gw.Val.data n).show true = "str:[Data]" := by
  simp [Gw.Val.show]

-- non-vacuity: a stream with two updates and a custom event, subscriber joins after the first.
example : (RS.run (([] : List Nat), 0) [some 1, none, some 2]) = ([1, 2], 2) := by decide

end Resgate.C01
