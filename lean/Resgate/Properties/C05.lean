import Resgate.Proofs.GwPure

/-
C05 — Call gating and token currency.  (Pure part: which methods an access answer grants.)
-/

namespace Resgate.C05
open Resgate

/-- The call-list scanner grants a method iff the list is `*` or the method is an exact entry of
    the comma-separated list — for ALL byte strings (prefixes, suffixes, substrings, empty
    entries). -/
theorem canCall_spec (call action : Bytes) :
    canCall call action = true ↔
      call = [cStar] ∨ (call ≠ [] ∧ action ∈ splitOn cComma call) :=
  Resgate.canCall_spec call action

/-- An empty call list grants nothing. -/
theorem canCall_empty (action : Bytes) : canCall [] action = false := rfl

/-- `*` grants every method. -/
theorem canCall_star (action : Bytes) : canCall [cStar] action = true := rfl

/-- A method that is only a proper prefix / suffix / substring of an entry is not granted. -/
theorem canCall_not_substring (call action : Bytes) (hstar : call ≠ [cStar])
    (h : action ∉ splitOn cComma call) : canCall call action = false := by
  simpa [hstar, h] using canCall_spec call action

/-- What the gateway model does with an access answer when a call is waiting for it (the decision
    taken at both call sites, WebSocket and HTTP): the call goes on to the service iff the answer
    carries no error and its call list is `*` or has the method as an exact entry; an answer with an
    error refuses the call with that very error. -/
theorem call_forwarded_iff (a : Gw.Access) (action : String) :
    (a.canCallE action = none ↔
      a.err = none ∧ (Gw.toBytes a.call = [cStar] ∨
        (Gw.toBytes a.call ≠ [] ∧ Gw.toBytes action ∈ splitOn cComma (Gw.toBytes a.call)))) ∧
    (∀ e, a.err = some e → a.canCallE action = some e) := by
  refine ⟨Gw.canCallE_spec a action, ?_⟩
  intro e h
  simp [Gw.Access.canCallE, h]

-- Non-vacuity: "set,get" grants "get", not "ge", "et" or "set,get".
example : canCall [115, 101, 116, 44, 103, 101, 116] [103, 101, 116] = true := by decide
example : canCall [115, 101, 116, 44, 103, 101, 116] [103, 101] = false := by decide
example : canCall [115, 101, 116, 44, 103, 101, 116] [101, 116] = false := by decide
example : [103, 101] ∉ splitOn cComma [115, 101, 116, 44, 103, 101, 116] := by decide

end Resgate.C05
