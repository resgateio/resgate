import Resgate.Proofs.Lcs
import Resgate.Proofs.PatternSpec
import Resgate.Proofs.ModelDiff
import Resgate.Proofs.Reset
import Resgate.Generated.Tables

/-
C12 — System reset re-fetches exactly the matching resources with a correct diff.
(Pure part: pattern parsing/matching and the collection diff.)
-/

namespace Resgate.C12
open Resgate Resgate.Lcs

/-- Tie: validity of single-byte tokens in every context is what the code computes now. -/
theorem patByteTbl_agrees :
    Generated.patByteTbl.all (fun p =>
      (parsePattern [p.1]).isValid == p.2.1 &&
      (parsePattern [97, 46, p.1]).isValid == p.2.2.1 &&
      (parsePattern [97, p.1, 98]).isValid == p.2.2.2.1 &&
      (parsePattern [97, 46, p.1, 46, 98]).isValid == p.2.2.2.2) = true := by decide +kernel

/-- `Match` never indexes out of range — for any pattern value (valid or not) and any name. -/
theorem match_total (p : Pattern) (s : Bytes) : (p.matches? s).isSome = true :=
  Resgate.match_total p s

/-- **Matching is token-wise wildcard matching**: for every pattern whose dot-separated tokens are
    valid (non-empty; `*` alone in a token; `>` alone and last; otherwise printable bytes without
    `? * > .`) and every name whose tokens are non-empty (every cached resource name is), the
    byte-level loop of `ParseResourcePattern(p).Match(s)` decides `tokMatch`: a literal token
    matches itself, `*` exactly one token, `>` one or more trailing tokens. -/
theorem match_spec (p s : Bytes) (hp : patTokensOK (splitOn cDot p) = true)
    (hs : ∀ t ∈ splitOn cDot s, t ≠ []) :
    (parsePattern p).matches s = tokMatch (splitOn cDot p) (splitOn cDot s) :=
  Resgate.match_spec p s hp hs

/-- **A pattern is valid iff its tokens are**: `ParseResourcePattern` accepts exactly the byte
    strings whose dot-separated tokens are non-empty and are `*`, a final `>`, or printable bytes
    without `? * > .`. -/
theorem parse_valid_iff (p : Bytes) :
    (parsePattern p).isValid = true ↔ patTokensOK (splitOn cDot p) = true :=
  Resgate.parse_valid_iff p

/-- … hence for **every pattern the parser accepts** and every well-formed name, `Match` is
    token-wise wildcard matching. -/
theorem match_spec_valid (p s : Bytes) (hp : (parsePattern p).isValid = true)
    (hs : ∀ t ∈ splitOn cDot s, t ≠ []) :
    (parsePattern p).matches s = tokMatch (splitOn cDot p) (splitOn cDot s) :=
  Resgate.match_spec_valid p s hp hs

/-- Invalid patterns match nothing. -/
theorem invalid_matches_nothing (s : Bytes) : Pattern.invalid.matches s = false :=
  Resgate.invalid_matches_nothing s

/-- For any old and new collection (any lengths, repeated values) and ANY table handed to the
    back-track, the derived remove/add events, applied in order with the bounds checks of the
    event handlers, are all in range and yield a collection pointwise `Equal` to the new one. -/
theorem lcs_applies {α : Type} (eq : α → α → Bool) (hrefl : ∀ x, eq x x = true)
    (tbl : List α → List α → Nat → Nat → Int) (a b : List α) :
    ∃ r, applyCEvs a (lcsWith eq tbl a b) = some r ∧ AllRel (fun x y => eq x y = true) r b :=
  Resgate.Lcs.lcs_applies eq hrefl tbl a b

/-- … in particular for the table the code computes. -/
theorem lcs_applies_code {α : Type} [Inhabited α] (eq : α → α → Bool) (hrefl : ∀ x, eq x x = true)
    (a b : List α) :
    ∃ r, applyCEvs a (lcs eq a b) = some r ∧ AllRel (fun x y => eq x y = true) r b :=
  Resgate.Lcs.lcs_applies eq hrefl (lcsTable eq) a b

/-- **The model diff applies.** For every cached model and every fetched model (keys distinct: Go
    maps) and every reflexive, symmetric `Equal`, the change event derived by `processResetModel`,
    applied by `handleEventChange`, leaves under every key a value `Equal` to the fetched one and
    removes every key the fetched model lacks. -/
theorem modelDiff_applies {κ α : Type} [DecidableEq κ] (eq : α → α → Bool) (hrefl : ∀ x, eq x x = true)
    (hsymm : ∀ x y, eq x y = eq y x) (old new : KV κ α)
    (ho : (old.map (·.1)).Nodup) (hn : (new.map (·.1)).Nodup) (k : κ) :
    match kvGet (applyChange eq old (modelDiff eq old new)).1 k, kvGet new k with
    | none, none => True
    | some r, some v => eq v r = true
    | _, _ => False :=
  Resgate.modelDiff_applies eq hrefl hsymm old new ho hn k

/-- Unchanged content yields no event. -/
theorem lcs_nil_of_equal {α : Type} (eq : α → α → Bool) (tbl : List α → List α → Nat → Nat → Int)
    {a b : List α} (h : AllRel (fun x y => eq x y = true) a b) : lcsWith eq tbl a b = [] :=
  Resgate.Lcs.lcs_nil_of_equal eq tbl h

-- Non-vacuity / sanity on a list with repeated values.
-- (`backtrack` is defined by well-founded recursion, so concrete instances are exercised through the
-- compiled driver in the correspondence check rather than by `decide`.)
example : ∀ x : Nat, (x == x) = true := by simp
example : ∀ x y : Bool, (x == y) = (y == x) := by decide
example : (([(1, 10), (2, 20)] : KV Nat Nat).map (·.1)).Nodup := by decide
-- hypotheses of `match_spec` are satisfiable: "a.*.>" and "a.b.c.d"
example : patTokensOK (splitOn cDot [97, 46, 42, 46, 62]) = true ∧
    (∀ t ∈ splitOn cDot [97, 46, 98, 46, 99, 46, 100], t ≠ []) := by decide
example : (parsePattern [97, 46, 42]).matches [97, 46, 98] = true := by decide
example : (parsePattern [97, 46, 62]).matches [97, 46, 98, 46, 99] = true := by decide
example : (parsePattern [97, 46, 42]).matches [97, 46, 98, 46, 99] = false := by decide

/-- **Which cached resources a system reset touches** (`Cache.forEachMatch`, the function the
    model's `systemEvent` iterates over): a cache entry is handed to the re-fetch (or, for the
    access list, to the access re-validation) iff its name matches at least one listed pattern
    that parses as valid. -/
theorem reset_selects_exactly (index : List (String × Nat)) (ps : List String) (eid : Nat) :
    eid ∈ Gw.resetMatches index (Gw.validPats ps) ↔
      ∃ name p, (name, eid) ∈ index ∧ p ∈ ps ∧ (parsePattern (Gw.toBytes p)).isValid = true ∧
        (parsePattern (Gw.toBytes p)).matches (Gw.toBytes name) = true := by
  simp only [Gw.mem_resetMatches, Gw.mem_validPats]
  constructor
  · rintro ⟨name, hn, _, ⟨p, hps, hv, rfl⟩, hm⟩
    exact ⟨name, p, hn, hps, hv, hm⟩
  · rintro ⟨name, p, hn, hps, hv, hm⟩
    exact ⟨name, hn, _, ⟨p, hps, hv, rfl⟩, hm⟩

/-- … and, names of cached resources having no empty token, "matches" is token-wise wildcard
    matching of a pattern whose tokens are well formed (`*` one token, `>` one or more trailing
    tokens): the selection is exactly the one the property states. -/
theorem reset_selects_tokenwise (index : List (String × Nat)) (ps : List String) (eid : Nat)
    (hnames : ∀ ne ∈ index, ∀ t ∈ splitOn cDot (Gw.toBytes ne.1), t ≠ []) :
    eid ∈ Gw.resetMatches index (Gw.validPats ps) ↔
      ∃ name p, (name, eid) ∈ index ∧ p ∈ ps ∧ patTokensOK (splitOn cDot (Gw.toBytes p)) = true ∧
        tokMatch (splitOn cDot (Gw.toBytes p)) (splitOn cDot (Gw.toBytes name)) = true := by
  rw [reset_selects_exactly]
  refine exists_congr fun name => exists_congr fun p => and_congr_right fun hn =>
    and_congr_right fun _ => ?_
  rw [parse_valid_iff]
  refine and_congr_right fun hv => ?_
  rw [Resgate.match_spec _ _ hv (hnames _ hn)]

/-- A resource whose re-fetch is still outstanding is not fetched again (`resetting`). -/
theorem reset_once (r : Gw.Res) : Gw.resetStarts r = true ↔ r.resetting = false := by
  unfold Gw.resetStarts
  cases r.resetting <;> simp

end Resgate.C12
