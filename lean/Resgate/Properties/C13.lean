import Resgate.Proofs.GwPure
import Resgate.Proofs.Mailbox
import Resgate.Proofs.QIdx
import Resgate.Gw.Reset

/-
C13 — Query resources: atomic query-event handling (the lock).
-/

namespace Resgate.C13
open Resgate Resgate.Gw

/-- While the lock of a query event is active no later event or response item is handled. -/
theorem locked_runs_no_normal_item (e : Entry) (h : e.locks.isSome = true) :
    ∀ it e', mbNext e ≠ .normal it e' :=
  Gw.mbNext_locked e h

/-- Every answered (or failed) query request uses one slot; the lock clears when the last slot is
    used and only then. -/
theorem unlock_uses_one_slot (e : Entry) (cap st : Nat) (it : LItem) (rest : List (Nat × LItem))
    (h : e.locks = some (cap, (st, it) :: rest)) :
    mbNext e = .lock it { e with locks := if cap - 1 == 0 && rest.isEmpty then none else some (cap - 1, rest) } :=
  Gw.mbNext_unlock e cap st it rest h

theorem lock_clears_iff (cap k : Nat) (hc : 0 < cap) : lockAfter cap k = none ↔ cap ≤ k :=
  Gw.lock_clears_iff cap k hc

/-- After the lock has cleared the waiting items run in FIFO order. -/
theorem resumes_fifo (e : Entry) (st : Nat) (it : CItem) (rest : List (Nat × CItem))
    (hl : e.locks = none) (hq : e.queue = (st, it) :: rest) :
    mbNext e = .normal it { e with queue := rest } :=
  Gw.mbNext_fifo e st it rest hl hq

/-! ### Aliases share one cached resource

`Gw/QIdx.lean` is the alias index of a cache entry (`base / queries / links`) as pure functions;
`getResourceSubscription`, `processGetResponse` and `unregister` of the gateway model are built from
them (`Entry.idx / withIdx`). -/

/-- After a get response named the normalised query `nq` for the raw query `raw`, both resolve to
    the same cached resource `t` — and so does every raw query linked to `nq` earlier, since other
    queries resolve as before. -/
theorem aliases_share_one_resource (x : Gw.QIdx) (raw nq : String) (t : Nat) (hne : nq ≠ raw)
    (h : x.lookup nq = some t) :
    (x.link raw t).lookup raw = some t ∧ (x.link raw t).lookup nq = some t :=
  ⟨by rw [Gw.lookup_link, if_pos rfl], by rw [Gw.lookup_link, if_neg hne, h]⟩

theorem other_queries_unaffected (x : Gw.QIdx) (raw q : String) (t : Nat) (hne : q ≠ raw) :
    (x.link raw t).lookup q = x.lookup q := by
  rw [Gw.lookup_link, if_neg hne]

/-- A query that resolves to nothing gets its own resource, which it then resolves to. -/
theorem new_query_registered (x : Gw.QIdx) (q : String) (rs : Nat) (hnone : x.lookup q = none) :
    (x.register q rs).lookup q = some rs :=
  Gw.lookup_register x q rs hnone

-- non-vacuity: "q=a" and "q=b" both normalise to "q=n1"
example : let x := ((({} : Gw.QIdx).register "q=a" 1).link "q=a" 2 |>.register "q=n1" 2 |>.link "q=b" 2)
    x.lookup "q=a" = some 2 ∧ x.lookup "q=b" = some 2 ∧ x.lookup "q=n1" = some 2 := by decide

/-- **One request per cached normalised query** (`handleQueryEvent`, the plan the model's cache
    actor executes): a query event takes exactly one lock slot per cached query of the entry; the
    queries whose resource is loaded are asked — each once, each with its own normalised query and
    for its own resource — and the ones still being fetched get a no-op slot, so the lock opened
    with capacity `queries.length` closes after exactly that many arrivals (`lock_clears_iff`). -/
theorem query_event_plan (e : Entry) :
    (queryPlan e).length = e.queries.length ∧
    (queryPlan e).map (fun p => (p.1, p.2.1)) = e.queries ∧
    (∀ q rs asked, (q, rs, asked) ∈ queryPlan e →
      (q, rs) ∈ e.queries ∧ (asked = true ↔ (tget e.ress rs).state.toNat > 2)) := by
  unfold queryPlan
  refine ⟨List.length_map _, ?_, fun q rs asked h => ?_⟩
  · rw [List.map_map]
    exact List.map_id _
  · obtain ⟨⟨q', rs'⟩, hm, he⟩ := List.mem_map.1 h
    cases he
    exact ⟨hm, decide_eq_true_iff⟩

/-- **Atomic query-event handling over whole runs.** After a query event locked the mailbox for `n`
    query requests, and for every interleaving of enqueued items (events, responses, subscribers),
    arriving answers and worker steps in which fewer than `n` answers have arrived: the lock is
    still held — with exactly the unanswered requests outstanding — and not one normal item has
    been run. (`Entry.lockFor`, `Entry.push`, `Entry.pushUnlock` and `mbNext` are the functions the
    gateway model itself runs.) -/
theorem locked_until_every_answer (n : Nat) (m : Gw.Mailbox.MB) (ops : List Gw.Mailbox.Op)
    (hop : Gw.Mailbox.noLock ops) (hr : Gw.Mailbox.arrivals ops < n) :
    let m' := ops.foldl Gw.Mailbox.step { m with e := m.e.lockFor n }
    Gw.Mailbox.Held m' (n - Gw.Mailbox.arrivals ops) ∧ m'.e.locks.isSome = true ∧ m'.ran = m.ran := by
  obtain ⟨h, e⟩ := Gw.Mailbox.run_held ops { m with e := m.e.lockFor n }
    (n - Gw.Mailbox.arrivals ops) hop (by omega)
    (by rw [Nat.add_sub_cancel' (Nat.le_of_lt hr)]; exact Gw.Mailbox.held_lockFor m n)
  exact ⟨h, h.locked, e⟩

/-- … after which processing always resumes: when every answer has arrived (as many wait as slots
    are left), one worker step per answer ends the lock, runs no normal item and leaves the queue
    as it is — the next worker steps run the waiting items in order (`resumes_fifo`). -/
theorem all_answers_end_the_lock (arr : List (Nat × Gw.LItem)) (m : Gw.Mailbox.MB) (hne : arr ≠ [])
    (hl : m.e.locks = some (arr.length, arr)) :
    ((List.replicate arr.length Gw.Mailbox.Op.pop).foldl Gw.Mailbox.step m).e.locks = none ∧
    ((List.replicate arr.length Gw.Mailbox.Op.pop).foldl Gw.Mailbox.step m).ran = m.ran ∧
    ((List.replicate arr.length Gw.Mailbox.Op.pop).foldl Gw.Mailbox.step m).e.queue = m.e.queue := by
  obtain ⟨x, rest, rfl⟩ := List.exists_cons_of_ne_nil hne
  rw [List.length_cons, Gw.Mailbox.pops_end_lock rest x m hl]
  exact ⟨rfl, rfl, rfl⟩

-- non-vacuity: two requests out, one answered and processed, an event enqueued meanwhile
example : Gw.Mailbox.noLock [.arrive 1 .noop, .enq 2 (.queryEvent "s"), .pop, .pop] ∧
    Gw.Mailbox.arrivals [.arrive 1 .noop, .enq 2 (.queryEvent "s"), .pop, .pop] < 2 :=
  ⟨trivial, by decide⟩

-- … and the premise of `all_answers_end_the_lock` is what `lockFor 1` + one arriving answer gives
example : ((({ name := "q" } : Gw.Entry).lockFor 1).pushUnlock 5 .noop).locks
    = some ([(5, Gw.LItem.noop)].length, [(5, Gw.LItem.noop)]) :=
  rfl

end Resgate.C13
