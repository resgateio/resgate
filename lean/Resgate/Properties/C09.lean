import Resgate.Proofs.GwPure
import Resgate.Proofs.Release

/-
C09 — Cache entry lifecycle.  Theorems: the use-count / eviction-queue bookkeeping under
well-formed use.  That every subscriber releases at most once is proved at the level of the cache entry
(released_at_most_once; the double release D4 was repaired in /repo).
-/

namespace Resgate.C09
open Resgate Resgate.Gw

/-- Under well-formed use (never more releases than uses) the count stays non-negative, the entry
    waits for eviction exactly when its count reached zero, and `timerqueue.Add` is never called
    for an element already queued (no panic). -/
theorem count_step (c : Cnt) (h : c.Inv) (op : CntOp)
    (hop : match op with | .add => True | .remove n => 0 < n ∧ n ≤ c.count) :
    ∃ c', c.step op = some c' ∧ (c'.count = 0 → c'.pending = true) ∧ 0 ≤ c'.count ∧
      (c'.pending = true → c'.count = 0) :=
  let ⟨c', hs, h0, hp⟩ := Cnt.step_inv c h op hop
  ⟨c', hs, hp.mpr, h0, hp.mp⟩

/-- A new user cancels a pending eviction. -/
theorem add_cancels_eviction (p : Bool) : (addCountPure 0 p).2 = false := by
  simp [addCountPure]

/-- Releasing the last user schedules the eviction. -/
theorem last_release_schedules (n : Int) (hn : 0 < n) : (removeCountPure n n false).2.1 = true := by
  have h0 : (n != 0) = true := by simp; omega
  simp [removeCountPure, h0]

/-- Every sequence of operations under well-formed use keeps the invariant and never panics:
    the one-step theorem lifted to all histories of one cache entry. -/
def runOps : Cnt → List CntOp → Option Cnt
  | c, [] => some c
  | c, op :: ops => match c.step op with
    | some c' => runOps c' ops
    | none => none

/-- `WellUsed c ops`: no release exceeds the uses held at that moment. -/
def WellUsed : Cnt → List CntOp → Prop
  | _, [] => True
  | c, op :: ops =>
    (match op with | .add => True | .remove n => 0 < n ∧ n ≤ c.count) ∧
    ∀ c', c.step op = some c' → WellUsed c' ops

theorem count_run (c : Cnt) (h : c.Inv) (ops : List CntOp) (hw : WellUsed c ops) :
    ∃ c', runOps c ops = some c' ∧ c'.Inv := by
  induction ops generalizing c with
  | nil => exact ⟨c, rfl, h⟩
  | cons op ops ih =>
    obtain ⟨c1, hs, h1⟩ := Cnt.step_inv c h op hw.1
    obtain ⟨c2, hr, hi⟩ := ih c1 h1 (hw.2 c1 hs)
    exact ⟨c2, by simp [runOps, hs, hr], hi⟩

/-- What the eviction timer does with an entry (`Cache.mqUnsubscribe`): the entry is removed iff
    it was queued for eviction and still has no user; its event subscription is then released iff
    it had one. Together with the invariant (queued ⇒ count = 0, and a new user un-queues it) an
    entry is evicted exactly when its last user is gone for the whole delay. -/
theorem evict_iff (count : Int) (pending mqSub : Bool) (u : Bool) :
    evictDecision count pending mqSub = some u ↔ pending = true ∧ count ≤ 0 ∧ u = mqSub := by
  unfold evictDecision
  cases pending
  · simp
  · by_cases h : count > 0
    · simp [h]
      omega
    · simp [h, eq_comm]
      omega

theorem used_entry_stays (count : Int) (pending mqSub : Bool) (h : 0 < count) :
    evictDecision count pending mqSub = none := by
  unfold evictDecision
  cases pending <;> simp [h]

/-- **A subscriber is released at most once** (the repaired `ResourceSubscription.Unsubscribe`, the
    pure `Entry.release` the model's cache actor runs): a release takes effect iff the subscriber is
    still registered with the resource, and after it took effect a second release of the same
    subscriber finds nothing and gives nothing back — the double release behind the negative counts
    and gauges (defect D4, fixed by `c027952`) cannot happen at this level any more. -/
theorem released_at_most_once (e : Entry) (rs : Nat) (sub : SubRef) :
    (e.release rs sub).isSome = (tget e.ress rs).subs.contains sub ∧
    (e.dropSub rs sub).release rs sub = none :=
  ⟨Gw.isSome_release e rs sub, Gw.release_twice_is_once e rs sub⟩

example : (⟨1, false⟩ : Cnt).Inv := by simp [Cnt.Inv]

end Resgate.C09
