import Resgate.Proofs.Rid
import Resgate.Gw.Ops

/-
C10 — Connection isolation.
-/

namespace Resgate.C10
open Resgate

/-- A resource id without the `{cid}` tag is the same towards services and clients … -/
theorem expandCID_no_tag (cid : Bytes) (rid : Bytes) (h : ∀ c ∈ rid, c ≠ 123) :
    expandCID cid rid = rid := by
  fun_induction expandCID cid rid with
  | case1 rest ih => exact absurd rfl (h 123 (by simp))
  | case2 c cs _ ih => rw [ih fun x hx => h x (List.mem_cons_of_mem _ hx)]
  | case3 => rfl

/-- … and expansion with the connection's own id keeps a valid id valid (subjects stay hygienic). -/
theorem expandCID_valid (cid rid : Bytes) (aq : Bool) (hcid : cid.all okByte = true) (hne : cid ≠ []) :
    isValidRID (expandCID cid rid) aq = isValidRID rid aq :=
  Resgate.isValidRID_expandCID aq cid rid hcid hne

/-- Every access / call / auth payload the model builds starts with the requesting connection's id
    and carries exactly the token handed in (the connection's token at emission time). -/
theorem payload_names_requester (cid : Nat) (token query params : String) :
    ∃ rest, Gw.reqPayload cid token query params = ",".intercalate ([s!"cid={Gw.cname cid}"] ++ rest) ∧
      s!"token={token}" ∈ rest := by
  refine ⟨(if params == "" then [] else [s!"params={params}"]) ++
    ((if query == "" then [] else [s!"query={query}"]) ++ [s!"token={token}"]), ?_, by simp⟩
  rw [Gw.reqPayload, List.append_assoc, List.append_assoc]

/-- **Whom a token reset addresses** (`wsConn.TokenReset`, the decision the model's connection
    actor takes before it issues the auth request): exactly the connections that have a token id
    and whose token id the reset names. An empty or `null` entry in the list addresses nobody: a
    connection without token id is never addressed. -/
theorem token_reset_addresses_iff (tid : String) (tids : List String) :
    Gw.resetAddresses tid tids = true ↔ tid ≠ "" ∧ tid ∈ tids := by
  simp [Gw.resetAddresses]

theorem token_reset_never_addresses_anonymous (tids : List String) : Gw.resetAddresses "" tids = false := by
  simp [Gw.resetAddresses]

end Resgate.C10
