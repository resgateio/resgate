import Resgate.Proofs.EvQ
import Resgate.Proofs.Version
import Resgate.Proofs.Mailbox

/-
C03 — Per-resource event delivery is ordered, gap-free and duplicate-free.
-/

namespace Resgate.C03
open Resgate Resgate.EvQ

/-- For every interleaving of arriving events, starts of queueing and flushes — including flushes
    in which a processed event starts queueing again, so that the not yet processed events are put
    back in front — `processed ++ waiting = received` in order, and nothing waits unless queueing. -/
theorem queue_preserves_order {ε} (ops : List (Op ε)) (q : Q ε)
    (hw : q.queueing = false → q.waiting = []) :
    let q' := ops.foldl Q.step q
    q'.done ++ q'.waiting = q.done ++ q.waiting ++ received ops ∧
    (q'.queueing = false → q'.waiting = []) :=
  Resgate.EvQ.queue_preserves_order ops q hw

/-- A cache entry's mailbox runs normal items in enqueue order … -/
theorem mailbox_fifo (e : Gw.Entry) (st : Nat) (it : Gw.CItem) (rest : List (Nat × Gw.CItem))
    (hl : e.locks = none) (hq : e.queue = (st, it) :: rest) :
    Gw.mbNext e = .normal it { e with queue := rest } :=
  Gw.mbNext_fifo e st it rest hl hq

/-- … and never while a query-event lock is active. -/
theorem mailbox_locked (e : Gw.Entry) (h : e.locks.isSome = true) :
    ∀ it e', Gw.mbNext e ≠ .normal it e' :=
  Gw.mbNext_locked e h

/-- Over whole runs of a cache entry's mailbox — any interleaving of enqueues, query-event locks,
    arriving unlock items and worker steps: the normal items run so far, followed by those still
    waiting, are exactly the items that were there plus those enqueued, in order (none lost, none
    twice, none overtaking another). The three write operations are the functions the gateway model
    itself uses (`Entry.push`, `Entry.pushUnlock`, `Entry.lockFor`), the worker step is `mbNext`. -/
theorem mailbox_run_in_order (ops : List Gw.Mailbox.Op) (m : Gw.Mailbox.MB) :
    (ops.foldl Gw.Mailbox.step m).ran ++ Gw.Mailbox.items (ops.foldl Gw.Mailbox.step m).e.queue
      = m.ran ++ Gw.Mailbox.items m.e.queue ++ Gw.Mailbox.enqueued ops := by
  induction ops generalizing m with
  | nil => simp [Gw.Mailbox.enqueued]
  | cons op ops ih => rw [List.foldl_cons, ih, Gw.Mailbox.step_spec]

/-- … and a worker step under an active lock runs none of them. -/
theorem mailbox_run_locked (m : Gw.Mailbox.MB) (h : m.e.locks.isSome = true) :
    (Gw.Mailbox.step m .pop).ran = m.ran :=
  Gw.Mailbox.ran_step_of_locked m .pop h

/-- What a subscriber delivers is a contiguous suffix of the resource's stream from the snapshot
    point, preceded only by custom events already stamped with the snapshot version (so nothing is
    skipped once the resource has been handed over, and nothing is delivered twice). -/
theorem contiguous_after_snapshot {α} (r0 : Snap.RS α) (pre mid post : List (Option α)) :
    let rp := r0.run pre
    let rq := rp.run mid
    let s := Snap.Sub.runEvs ⟨rq.1, rq.2, []⟩ (Snap.emit rp (mid ++ post))
    ∃ old, s.delivered = old ++ Snap.emit rq post ∧ ∀ e ∈ old, e.upd = none ∧ e.ver = rq.2 :=
  (Resgate.Snap.snapshot_replay r0 pre mid post).2.2

example : (Q.step (⟨[1], [], false⟩ : Q Nat) (.recv 2)).done = [1, 2] := by decide
example : (Q.step (⟨[1], [], true⟩ : Q Nat) (.recv 2)).waiting = [2] := by decide

end Resgate.C03
