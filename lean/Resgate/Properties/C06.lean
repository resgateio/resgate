import Resgate.Proofs.GwPure
import Resgate.Proofs.EvQ

/-
C06 — Access revocation.  Theorems: no event is processed while the re-check queues them and all
are released in order afterwards (the queue discipline); what verdict unsubscribes.  That every
trigger leads to a re-check is carried by correspondence (known finding D8: a trigger deferred by a
queueing subscription keeps the cached verdict).
-/

namespace Resgate.C06
open Resgate Resgate.Gw Resgate.EvQ

/-- While a re-check is pending (queueing), arriving events are only appended; after the verdict
    they are released in arrival order, none lost or duplicated. -/
theorem no_leak_then_in_order {ε} (ops : List (Op ε)) (q : Q ε)
    (hw : q.queueing = false → q.waiting = []) :
    let q' := ops.foldl Q.step q
    q'.done ++ q'.waiting = q.done ++ q.waiting ++ received ops ∧
    (q'.queueing = false → q'.waiting = []) :=
  Resgate.EvQ.queue_preserves_order ops q hw

theorem recv_while_queueing {ε} (q : Q ε) (e : ε) (h : q.queueing = true) :
    (q.recv e).done = q.done ∧ (q.recv e).waiting = q.waiting ++ [e] := by
  simp [Q.recv, h]

/-- The verdict that revokes: anything but a get grant. -/
theorem revokes_iff (a : Access) : a.canGet ≠ none ↔ ¬ (a.err = none ∧ a.get = true) := by
  rw [Ne, (Gw.canGet_spec a).1]

example : (⟨none, false, "*"⟩ : Access).canGet = some "system.accessDenied" := rfl

/-- Every trigger (`handleReaccess`) drops the remembered verdict, whatever it was and whatever the
    history before: the re-validation cannot be answered from memory, and an answer that is not
    stored (timeout, error other than accessDenied) leaves nothing to fall back on. -/
theorem trigger_drops_verdict (h : List Gw.VEv) (b : Gw.Access) (hb : Gw.storeVerdict b = false) :
    Gw.verdictAfter (Gw.VEv.trigger :: h) = none ∧
    Gw.verdictAfter (Gw.VEv.answer b :: Gw.VEv.trigger :: h) = none := by
  refine ⟨rfl, ?_⟩
  simp [Gw.verdictAfter, Gw.verdictStep, hb]

end Resgate.C06
