import Resgate.Proofs.Rpc
import Resgate.Generated.Tables

/-
C14 — Subject hygiene and request validation.
-/

namespace Resgate.C14
open Resgate

/-- Tie: the byte classes of `IsValidRID` / `IsValidRIDPart`, for every byte in every context,
    are what the code computes now. -/
theorem ridByteTbl_agrees :
    Generated.ridByteTbl.all (fun p =>
      isValidRID [p.1] false == p.2.1 &&
      isValidRID [97, 46, p.1] false == p.2.2.1 &&
      isValidRID [97, p.1, 98] false == p.2.2.2.1 &&
      isValidRID [97, p.1, 98] true == p.2.2.2.2.1 &&
      isValidRIDPart [p.1] == p.2.2.2.2.2.1 &&
      isValidRIDPart [97, p.1] == p.2.2.2.2.2.2) = true := by decide +kernel

theorem cidPlaceholder_agrees : Generated.cidPlaceholder = sCidTag := by decide

/-- `IsValidRID` accepts exactly: a name of non-empty dot-separated tokens of printable non-space
    ASCII without `*`, `>`, `?`, optionally (only when allowed) followed by `?` and any query. -/
theorem validRID_spec (rid : Bytes) (allowQuery : Bool) :
    isValidRID rid allowQuery =
      (nameOK (cutAt cQm rid).1 && ((cutAt cQm rid).2.isNone || allowQuery)) :=
  Resgate.isValidRID_spec rid allowQuery

theorem validPart_spec (p : Bytes) : isValidRIDPart p = (!p.isEmpty && p.all okByte) :=
  Resgate.isValidRIDPart_spec p

/-- `{cid}` expansion with the connection's (non-empty, alphanumeric) id never changes validity. -/
theorem expandCID_valid (cid rid : Bytes) (aq : Bool) (hcid : cid.all okByte = true) (hne : cid ≠ []) :
    isValidRID (expandCID cid rid) aq = isValidRID rid aq :=
  Resgate.isValidRID_expandCID aq cid rid hcid hne

/-- For EVERY method string: if the dispatcher hands a request on, every subject the gateway then
    uses (`access.`, `get.`, `event.`, `call.…`, `auth.…`) consists solely of non-empty
    dot-separated tokens of printable non-space ASCII without `*`, `>`, `?`; the query never
    reaches a subject. -/
theorem rpc_subjects_hygienic (m cid : Bytes) (hcid : cid.all okByte = true) (hne : cid ≠ [])
    (k : RpcKind) (rid method : Bytes) (h : rpcDispatch m = .req k rid method) :
    ∀ s ∈ subjectsFor cid k rid method, hygienic s = true :=
  Resgate.rpc_subjects_hygienic m cid hcid hne k rid method h

/-- … and what is handed on is a valid resource id (and method). -/
theorem rpc_dispatch_valid {m : Bytes} {k : RpcKind} {rid method : Bytes}
    (h : rpcDispatch m = .req k rid method) :
    isValidRID rid true = true ∧ ((k = .call ∨ k = .auth) → isValidRIDPart method = true) :=
  Resgate.rpcDispatch_req h

/-- **HTTP.** Whatever path, query and prefix a request carries: if the resource id that
    `PathToRID` derives from them passes `IsValidRID` (otherwise the handler answers 404 without any
    service traffic), every subject of the GET is hygienic; likewise for POST with the resource id
    and action derived by `PathToRIDAction` and the additional `IsValidRIDPart` check. -/
theorem http_subjects_hygienic (cid path query pref : Bytes) (hcid : cid.all okByte = true) (hne : cid ≠ []) :
    (isValidRID (Enc.pathToRID path query pref) true = true →
      ∀ s ∈ subjectsFor cid .get (Enc.pathToRID path query pref) [], hygienic s = true) ∧
    (isValidRID (Enc.pathToRIDAction path query pref).1 true = true →
      isValidRIDPart (Enc.pathToRIDAction path query pref).2 = true →
      ∀ s ∈ subjectsFor cid .call (Enc.pathToRIDAction path query pref).1 (Enc.pathToRIDAction path query pref).2,
        hygienic s = true) :=
  ⟨fun hv => Resgate.subjects_hygienic_of_valid cid hcid hne .get _ [] hv nofun,
    fun hv hp => Resgate.subjects_hygienic_of_valid cid hcid hne .call _ _ hv fun _ => hp⟩

/-- **Every HTTP request, unconditionally**: whatever the method (GET, HEAD, POST, a PUT / DELETE /
    PATCH mapped to a call method by the configuration, or anything else), path, query and API
    prefix, every service subject the handler's dispatch (`Enc.httpDispatch`, compared with the real
    `apiHandler` by suite `httppath`) can cause is hygienic; a request whose derived resource id or
    method is invalid causes no service traffic at all (404 / 405). -/
theorem http_dispatch_hygienic (cid method path query pref : Bytes) (mapped : Option Bytes)
    (hcid : cid.all okByte = true) (hne : cid ≠ []) :
    ∀ s ∈ Enc.httpSubjects cid (Enc.httpDispatch method path query pref mapped), hygienic s = true := by
  unfold Enc.httpDispatch
  by_cases h1 : (path.length > pref.length && path.getLast? == some 47) = true
  · rw [if_pos h1]
    exact fun _ h => nomatch h
  · rw [if_neg h1]
    by_cases h2 : (method == Enc.mGET || method == Enc.mHEAD) = true
    · rw [if_pos h2]
      exact Resgate.guarded_get_hygienic cid hcid hne _
    · rw [if_neg h2]
      by_cases h3 : (method == Enc.mPOST) = true
      · rw [if_pos h3]
        exact Resgate.guarded_call_hygienic cid hcid hne _ _
      · rw [if_neg h3]
        cases mapped with
        | none => exact fun _ h => nomatch h
        | some m => exact Resgate.guarded_call_hygienic cid hcid hne _ m

/-- Non-vacuity: a mapped PUT of `/api/m/a` calls `put` on `m.a`; of `/api/m/%2A` it is a 404. -/
example : Enc.httpDispatch [80, 85, 84] [47, 97, 112, 105, 47, 109, 47, 97] [] [47, 97, 112, 105, 47] (some [112, 117, 116])
    = .call [109, 46, 97] [112, 117, 116] := by decide
example : Enc.httpDispatch [80, 85, 84] [47, 97, 112, 105, 47, 109, 47, 37, 50, 65] [] [47, 97, 112, 105, 47] (some [112, 117, 116])
    = .notFound := by decide

/-- A method string without a dot never causes service traffic. -/
theorem rpc_no_dot {m : Bytes} (h : cDot ∉ m) :
    rpcDispatch m = .version ∨ rpcDispatch m = .invalid :=
  Resgate.rpcDispatch_no_dot h

-- Non-vacuity: "call.a.{cid}.b" with cid "zz" is dispatched; "call.a.*.b", "get.a b", "get.a." are not.
example : rpcDispatch [99, 97, 108, 108, 46, 97, 46, 123, 99, 105, 100, 125, 46, 98]
    = .req .call [97, 46, 123, 99, 105, 100, 125] [98] := by decide
example : subjectsFor [122, 122] .call [97, 46, 123, 99, 105, 100, 125] [98]
    = [[97, 99, 99, 101, 115, 115, 46, 97, 46, 122, 122], [99, 97, 108, 108, 46, 97, 46, 122, 122, 46, 98]] := by
  decide
example : rpcDispatch [99, 97, 108, 108, 46, 97, 46, 42, 46, 98] = .invalid := by decide
example : rpcDispatch [103, 101, 116, 46, 97, 32, 98] = .invalid := by decide
example : rpcDispatch [103, 101, 116, 46, 97, 46] = .invalid := by decide

end Resgate.C14
