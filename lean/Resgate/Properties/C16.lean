import Resgate.Proofs.Encode
import Resgate.Proofs.Path

/-
C16 — HTTP resources are a faithful, finite rendering of the resource graph.
The encoders are modelled as written (string concatenation along the walk, `path` stack); their
definition by well-founded recursion on the number of graph nodes not on the path is accepted by
Lean, which is the proof that the expansion terminates on every finite graph, cyclic or not.
`get_is_rendered_expansion` is the full statement for GET: the bytes the encoders write are the
print-out of the recursive expansion (a JSON tree: `Model/EncodeSpec.lean`), whose printer emits
well-formed JSON by construction given well-formed leaves (service values, validated by
`encoding/json` when they enter the cache).
POST (result verbatim / 204 / Location) is not modelled yet.
-/

namespace Resgate.C16
open Resgate.Enc

/-- **GET returns the printed recursive expansion**, for every graph (cycles of any length, shared
    children, error leaves, soft references, data values), both encodings and every prefix:
    referenced resources nested in place (`wrapJ`: href plus model/collection/error in `json`, the
    bare content in `jsonflat`), soft references and path re-entries as href only, data values
    unwrapped, failed references as their error. -/
theorem get_is_rendered_expansion (g : HGraph) (pref : String) (flat : Bool) (rid : String) :
    encodeGET g pref flat rid = (expandGET g pref flat rid).map J.render :=
  encodeGET_eq_render g pref flat rid

/-- The same below the root: a reference at any depth prints the expansion of its target. -/
theorem reference_is_rendered_expansion (g : HGraph) (pref : String) (flat : Bool) (path : List String) (rid : String) :
    encSub g pref flat path rid true = (expSub g pref flat path rid true).map J.render :=
  encSub_render g pref flat path rid true (Or.inl rfl)

/-- **RID ↔ path round trip.** For every resource id — any bytes, incl. a query part, `{cid}`,
    characters needing escaping — that is non-empty and does not start with a dot, every prefix and
    every request query, the path printed by `RIDToPath` (hrefs, `Location`) is mapped back to that
    resource id by `PathToRID`. -/
theorem href_round_trip (rid pref q : Resgate.Bytes) (hne : rid ≠ []) (hhead : rid.head? ≠ some Resgate.cDot)
    (hb : ∀ b ∈ rid, b < 256) :
    pathToRID (ridToPathB rid pref) q pref = if q.isEmpty then rid else rid ++ Resgate.cQm :: q :=
  pathToRID_ridToPathB rid pref q hne hhead hb

/-- On every finite graph in which references resolve (cycles of any length, self references,
    shared children, error leaves), GET produces a body for every resource — the expansion
    terminates with a result, for both encoders and every apiPath prefix. -/
theorem get_total (g : HGraph) (hc : Closed g) (pref : String) (flat : Bool) (rid : String)
    (h : (lookup g rid).isSome = true) : (encodeGET g pref flat rid).isSome = true :=
  encodeGET_isSome g hc pref flat rid h

/-- A reference that would re-enter a resource already on the current expansion path is rendered
    as href only. -/
theorem reentry_is_href_only (g : HGraph) (pref : String) (flat : Bool) (path : List String) (rid : String)
    (h : rid ∈ path) : encSub g pref flat path rid true = some (href rid pref ++ "}") :=
  encSub_reentry g pref flat path rid h

/-- Soft references are href only, data values are unwrapped, primitives verbatim. -/
theorem leaves (g : HGraph) (pref : String) (flat : Bool) (path : List String) (rid raw : String) :
    encVal g pref flat path (.soft rid) = some (href rid pref ++ "}") ∧
    encVal g pref flat path (.data raw) = some raw ∧
    encVal g pref flat path (.prim raw) = some raw :=
  encVal_leaves g pref flat path rid raw

/-- Failed references are rendered as their error: `{"href":…,"error":…}` in json, bare in jsonflat. -/
theorem failed_reference (g : HGraph) (pref : String) (path : List String) (rid e : String)
    (hp : rid ∉ path) (hl : lookup g rid = some (.err e)) :
    encSub g pref false path rid true = some (href rid pref ++ ",\"error\":" ++ e ++ "}") ∧
    encSub g pref true path rid true = some e :=
  encSub_error g pref path rid e hp hl

/-- The termination measure strictly decreases when a resource is entered. -/
theorem measure_decreases (g : HGraph) (path : List String) (rid : String) (n : HNode)
    (hl : lookup g rid = some n) (hp : rid ∉ path) : offPath g (rid :: path) < offPath g path :=
  offPath_lt g path rid n hl hp

-- non-vacuity: a two-cycle is a closed graph
example : Closed [("a", .model [("k", .ref "b")]), ("b", .coll [.ref "a", .soft "a"])] := by
  intro rid n h
  simp only [lookup, List.find?_cons] at h
  split at h
  · simp at h
    subst h
    intro kv hkv
    simp at hkv
    subst hkv
    simp [valResolves, lookup]
  · split at h
    · simp at h
      subst h
      intro v hv
      simp at hv
      rcases hv with rfl | rfl <;> simp [valResolves, lookup]
    · simp at h

-- non-vacuity of the refinement: the expansion of a self-referencing model with a soft reference
example : expandGET [("a", .model [("k", .ref "a"), ("s", .soft "b")])] "/api/" false "a"
    = some (.obj [("k", hrefJ "a" "/api/"), ("s", hrefJ "b" "/api/")]) := by
  have hl : lookup [("a", .model [("k", .ref "a"), ("s", .soft "b")])] "a" = some (.model [("k", .ref "a"), ("s", .soft "b")]) :=
    rfl
  rw [expandGET, expSub, dif_neg List.not_mem_nil, hl]
  simp [expSub, expKVs, expVal, wrapJ]

-- non-vacuity of the round trip: "a.b?x" with prefix "/api/"
example : pathToRID (ridToPathB [97, 46, 98, 63, 120] [47, 97, 112, 105, 47]) [] [47, 97, 112, 105, 47] = [97, 46, 98, 63, 120] := by
  decide

end Resgate.C16
