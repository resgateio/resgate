import Resgate.Proofs.Throttle
import Resgate.Gw.Pure

/-
C19 — Throttles bound outstanding requests and never stall.  (The throttle itself.)
-/

namespace Resgate.Gw

/-- The throttle of the gateway model (`Gw.ThrottleS`, whose waiting callbacks are job ids) read as
    the throttle of `Model/Throttle.lean` (the one the theorems below are about and the suite
    `throttle` compares with `server/rescache/throttle.go` operation by operation):
    `C19.gateway_throttle_is_this_throttle`. -/
def ThrottleS.toModel (t : ThrottleS) : Resgate.Throttle := ⟨t.limit, t.running, t.queue⟩

end Resgate.Gw

namespace Resgate.C19
open Resgate Resgate.Throttle

/-- For every limit ≥ 1 and EVERY word of Add/Done operations that does not hit the panic:
    at most `limit` callbacks run (`0 ≤ running ≤ limit`), callbacks wait only while all slots are
    taken, they are started in the order they were added (`started ++ waiting = added`), and
    `running = started − done`. -/
theorem throttle_run (limit : Int) (hl : 0 < limit) (ops : List TOp) (t' : Resgate.Throttle)
    (out : List Nat) (h : (Resgate.Throttle.new limit).run ops = some (t', out)) :
    Inv t' ∧ out ++ t'.queue = addsOf ops ∧ t'.running + (nDone ops : Int) = out.length := by
  obtain ⟨i, _, f, c⟩ := run_spec (inv_new limit hl) h
  refine ⟨i, by simpa [Resgate.Throttle.new] using f, by simpa [Resgate.Throttle.new] using c⟩

/-- The only way to panic is a `Done` with nothing running … -/
theorem panic_iff (t : Resgate.Throttle) (op : TOp) :
    t.step op = none ↔ op = .done ∧ t.running ≤ 0 :=
  step_none_iff t op

/-- … which a `Done` matching a started callback never is. -/
theorem matched_done_ok (t : Resgate.Throttle) (hpos : 0 < t.running) : (t.step .done).isSome = true := by
  rw [Option.isSome_iff_ne_none, Ne, step_none_iff]
  omega

/-- No stall: whenever a callback waits, every answer (`Done`) starts the longest-waiting one. -/
theorem done_starts_next (t : Resgate.Throttle) (hi : Inv t) (hl : 0 < t.limit) (cb : Nat)
    (q : List Nat) (hq : t.queue = cb :: q) :
    t.step .done = some ({ t with queue := q }, [cb]) :=
  step_done_cons t (by have := hi.2.2 (by simp [hq]); omega) hq

/-- … and while one waits, `limit ≥ 1` governed requests are outstanding to provide that `Done`. -/
theorem waiting_implies_full (t : Resgate.Throttle) (hi : Inv t) (hq : t.queue ≠ []) :
    t.running = t.limit := hi.2.2 hq

/-- Every governed request is eventually sent, whatever the answer order: the throttle does not
    see which request an answer belongs to, so "every started request has been answered" is
    `#Done = #started`; then nothing waits, nothing runs and everything added was started, in the
    order it was added. -/
theorem all_governed_eventually_sent (limit : Int) (hl : 0 < limit) (ops : List TOp)
    (t' : Resgate.Throttle) (out : List Nat)
    (h : (Resgate.Throttle.new limit).run ops = some (t', out)) (hall : nDone ops = out.length) :
    t'.queue = [] ∧ t'.running = 0 ∧ out = addsOf ops := by
  obtain ⟨i, hlim, f, c⟩ := run_spec (inv_new limit hl) h
  have hr : t'.running = 0 := by simp only [Resgate.Throttle.new] at c; omega
  have hq := i.queue_nil (by rw [hr, hlim]; exact hl)
  exact ⟨hq, hr, by simpa [hq, Resgate.Throttle.new] using f⟩

/-- … and that point is always reachable: from every state the invariant allows, the answers of
    the outstanding requests (`running + waiting` of them) start every waiting callback in order
    and leave nothing running; none of them panics. -/
theorem answers_drain_the_throttle (t : Resgate.Throttle) (hi : Inv t) (hl : 0 < t.limit) :
    t.run (dones (t.running.toNat + t.queue.length))
      = some ({ t with running := 0, queue := [] }, t.queue) := by
  obtain ⟨l, r, q⟩ := t
  obtain ⟨n, rfl⟩ := Int.eq_ofNat_of_zero_le hi.1
  simpa using drain l n q fun hq => by have := hi.2.2 hq; simp only at this hl; omega

/-- The throttle the gateway model runs in the lockstep (its waiting callbacks are job ids: the
    deferred get and access requests of a reset or of a reference tree) is this throttle: `Add`
    and `Done` there are `step (.add _)` and `step .done` here — same panic, same successor state,
    same callback started — so everything above holds for every throttle of the gateway model. -/
theorem gateway_throttle_is_this_throttle (t : Gw.ThrottleS) (jid : Nat) :
    t.toModel.step (.add jid) =
      some (if t.full then ((t.enqueue jid).toModel, []) else (t.start.toModel, [jid])) ∧
    t.toModel.step .done = t.done.map (fun p => (p.1.toModel, p.2.toList)) := by
  constructor
  · -- the same `if` on the same guard, with `some` outside
    simp only [Resgate.Throttle.step, Gw.ThrottleS.full, decide_eq_true_eq, apply_ite some]
    rfl
  · fun_cases Gw.ThrottleS.done t <;> simp [Resgate.Throttle.step, Gw.ThrottleS.toModel, *]

-- Non-vacuity: limit 2, add 1 2 3, done → 1,2 start at once, 3 after the Done.
example : (Resgate.Throttle.new 2).run [.add 1, .add 2, .add 3, .done]
    = some (⟨2, 2, []⟩, [1, 2, 3]) := by decide
example : (Resgate.Throttle.new 2).run [.add 1, .add 2, .add 3, .done, .done, .done]
    = some (⟨2, 0, []⟩, [1, 2, 3]) := by decide
example : Inv ⟨2, 2, [7, 8]⟩ := by simp [Throttle.Inv]

end Resgate.C19
