import Resgate.Proofs.Ready
import Resgate.Proofs.Rpc
import Resgate.Proofs.GwPure

/-
C07 — Exactly one response per client request.  Theorems: the dispatcher is total and every
rejected method is answered at once; the unsubscribe decision always yields a reply.  That pending
continuations are always run is NOT proved (false of the code: known findings D2, D10).
-/

namespace Resgate.C07
open Resgate Resgate.Gw

/-- Every method string is classified: version, invalid (answered at once with
    `system.invalidRequest`), or handed on with a valid resource id. -/
theorem dispatch_total (m : Bytes) :
    rpcDispatch m = .version ∨ rpcDispatch m = .invalid ∨
      ∃ k rid method, rpcDispatch m = .req k rid method ∧ isValidRID rid true = true := by
  cases h : rpcDispatch m with
  | version => exact Or.inl rfl
  | invalid => exact Or.inr (Or.inl rfl)
  | req k rid method => exact Or.inr (Or.inr ⟨k, rid, method, rfl, (rpcDispatch_req h).1⟩)

/-- **One reply per request tree.** The ready-callback counter of a request (`loading`): under the
    discipline of `collectRefs` (references are registered while the visiting subscription still holds
    its own token), whatever the order in which the registered subscriptions load, the reply
    callback has run exactly once when the root is done and nothing is outstanding, and not at all
    before — never twice, never early. -/
theorem reply_fires_exactly_once (ops : List Ready.Op) (hd : Ready.Disciplined {} ops) :
    (Ready.run {} ops).fired =
      if (Ready.run {} ops).rootHeld = false ∧ (Ready.run {} ops).outstanding = 0 then 1 else 0 :=
  (Ready.run_inv Ready.inv_init hd).fired_eq

/-- The discipline matters: giving the root's token back before registering a reference lets the
    counter pass through zero early — two replies. -/
theorem reply_twice_without_discipline :
    (Ready.run {} [.rootDone, .register, .loaded]).fired = 2 := by
  decide

/-- An unsubscribe request is always answered immediately, with exactly one of three outcomes. -/
theorem unsubscribe_answered (bad : Bool) (count : Int) (direct : Option Int) :
    unsubVerdict bad count direct = .ok ∨ unsubVerdict bad count direct = .invalidParams ∨
      unsubVerdict bad count direct = .noSubscription := by
  cases unsubVerdict bad count direct <;> simp

example : rpcDispatch [103, 101, 116] = .invalid := by decide

-- the discipline is satisfiable: two references registered, loaded in the other order
example : Ready.Disciplined {} [.register, .register, .rootDone, .loaded, .loaded] :=
  ⟨fun _ => rfl, fun _ => rfl, nofun, nofun, nofun, trivial⟩

end Resgate.C07
