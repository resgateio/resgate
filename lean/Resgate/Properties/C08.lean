import Resgate.Proofs.GwPure
import Resgate.Proofs.Direct
import Resgate.Generated.Tables

/-
C08 — Direct subscription accounting.  Theorems: the unsubscribe precondition and the limit.
That `direct` counts only established subscriptions is NOT proved (false: known finding D2).
-/

namespace Resgate.C08
open Resgate Resgate.Gw

theorem limit_agrees : Generated.subscriptionCountLimit = 256 := by decide

/-- An unsubscribe succeeds exactly when its count (default 1) is positive and does not exceed the
    number of direct subscriptions held; a bad or non-positive count is `system.invalidParams`,
    otherwise `system.noSubscription`. -/
theorem unsubscribe_spec (bad : Bool) (count : Int) (direct : Option Int) :
    (unsubVerdict bad count direct = .ok ↔ bad = false ∧ 0 < count ∧ ∃ d, direct = some d ∧ count ≤ d) ∧
    (unsubVerdict bad count direct = .invalidParams ↔ bad = true ∨ count ≤ 0) :=
  Gw.unsubVerdict_spec bad count direct

/-- At 256 direct subscriptions a further one is refused; below, the count grows by one. -/
theorem limit_spec (d : Int) :
    (addDirect 256 d = none ↔ 256 ≤ d) ∧ (d < 256 → addDirect 256 d = some (d + 1)) :=
  Gw.addDirect_spec 256 d

example : unsubVerdict false 2 (some 2) = .ok := by decide
example : unsubVerdict false 3 (some 2) = .noSubscription := by decide
example : unsubVerdict false 0 (some 2) = .invalidParams := by decide
example : addDirect 256 256 = none := by decide

/-! ### The counter as a machine over the model's own decision functions -/

/-- Each step of the gateway's direct-count bookkeeping (`addDirect`, `unsubVerdict`, the reset by an
    unsubscribe event) is the step of a plain counter: +1 below the limit, −count for an
    unsubscribe request with `0 < count ≤ n`, 0 after an unsubscribe event; every other request is
    refused with the stated error. -/
theorem direct_count_refines_counter (limit d : Int) (op : Direct.Op) :
    Direct.step limit d op = Direct.spec limit d op :=
  Direct.step_eq_spec limit d op

/-- For every sequence of subscribes, unsubscribe requests (any count, any parameters) and
    unsubscribe events, the count stays within `0..limit`. -/
theorem direct_count_bounds (limit : Int) (hl : 0 ≤ limit) (ops : List Direct.Op) :
    0 ≤ (Direct.run limit 0 ops).1 ∧ (Direct.run limit 0 ops).1 ≤ limit :=
  Direct.bounds limit hl ops 0 (Int.le_refl 0) hl

/-- A refused request leaves the count unchanged. -/
theorem refused_request_leaves_nothing (limit d : Int) (op : Direct.Op)
    (h : (Direct.step limit d op).2 = .limitExceeded ∨ (Direct.step limit d op).2 = .invalidParams ∨
         (Direct.step limit d op).2 = .noSubscription) : (Direct.step limit d op).1 = d := by
  rw [Direct.step_eq_spec] at h ⊢
  revert h
  fun_cases Direct.spec limit d op <;> simp

end Resgate.C08
