import Resgate.Proofs.Http
import Resgate.Generated.Tables

/-
C17 — HTTP status mapping, service meta limits and CORS allow-list.
Only property statements live here; helper lemmas are in `Resgate/Proofs/Http.lean`.
The `_agrees` theorems tie the model to tables regenerated from /repo on every run.
-/

namespace Resgate.C17
open Resgate

/-! ### Tie: the model's tables equal what the code computes now -/

theorem errorStatusTbl_agrees :
    Generated.errorStatusTbl.all (fun p => errorStatus p.1 == p.2) = true := by decide +kernel

theorem statusErrorTbl_agrees :
    Generated.statusErrorTbl.all (fun p => statusError p.1 == p.2) = true := by decide +kernel

theorem statusPredTbl_agrees :
    Generated.statusPredTbl.all
      (fun p => isDirectStatus p.1 == p.2.1 && isValidStatus p.1 == p.2.2) = true := by
  decide +kernel

/-- Every sampled header name: canonical form as the model computes it, and merging it leaves
    the five protected entries untouched exactly as the model predicts. -/
theorem mergeProtectedTbl_agrees :
    Generated.mergeProtectedTbls.all (fun tbl => tbl.all fun p =>
      canonicalMIME p.1 == p.2.1 &&
      (protectedNames.all fun q =>
        hdrGet (mergeHeader (protectedNames.map fun n => (n, [[111]])) [(canonicalMIME p.1, [[118]])]) q
          == some [[111]]) == p.2.2) = true := by
  -- the merge half holds of every meta header, by `merge_protects`
  have hm : ∀ b, (protectedNames.all fun q =>
      hdrGet (mergeHeader (protectedNames.map fun n => (n, [[111]])) b) q == some [[111]]) = true := by
    intro b
    rw [List.all_eq_true]
    intro q hq
    rw [Resgate.merge_protects _ _ q hq]
    revert q
    decide
  -- and the canonical form of the many spellings of a protected name or Set-Cookie is a theorem
  -- too (`canonicalMIME_eq_iff`): `canonAgrees` compares their lower-case forms instead
  simp only [hm, ← canonAgrees_eq]
  decide +kernel

/-! ### The fixed status table of the property -/

/-- notFound, methodNotFound, timeout: 404; accessDenied: 401; forbidden: 403;
    methodNotAllowed: 405; subjectTooLong: 414; internalError: 500; serviceUnavailable: 503. -/
theorem errorStatus_listed :
    errorStatus "system.notFound" = 404 ∧ errorStatus "system.methodNotFound" = 404 ∧
    errorStatus "system.timeout" = 404 ∧ errorStatus "system.accessDenied" = 401 ∧
    errorStatus "system.forbidden" = 403 ∧ errorStatus "system.methodNotAllowed" = 405 ∧
    errorStatus "system.subjectTooLong" = 414 ∧ errorStatus "system.internalError" = 500 ∧
    errorStatus "system.serviceUnavailable" = 503 := by simp [errorStatus]

/-- … anything else: 400 — for every string, not a sample. -/
theorem errorStatus_otherwise (code : String)
    (h : code ∉ ["system.notFound", "system.methodNotFound", "system.timeout", "system.accessDenied",
      "system.methodNotAllowed", "system.internalError", "system.serviceUnavailable",
      "system.forbidden", "system.subjectTooLong"]) : errorStatus code = 400 :=
  Resgate.errorStatus_default code h

/-- A meta status is honoured (ends the request) only within 300–599, for every integer. -/
theorem direct_status_range (s : Int) : isDirectStatus (some s) = true ↔ 300 ≤ s ∧ s < 600 :=
  Resgate.isDirectStatus_iff s

theorem no_status_not_direct : isDirectStatus none = false := rfl

theorem valid_status_range (s : Int) : isValidStatus (some s) = true ↔ 300 ≤ s ∧ s < 600 :=
  Resgate.isValidStatus_iff s

/-- The error reported for a status-only 4xx/5xx meta answer is a pre-defined error whose own HTTP
    status class agrees with the supplied one for the codes the table names. -/
theorem statusError_roundtrip :
    ∀ s ∈ [401, 403, 404, 405, 500, 503], (errorStatus (statusError s) : Int) = s := by
  -- the six instances first: unfolding the two tables at a variable `s` is slow
  simp only [List.forall_mem_cons]
  simp [errorStatus, statusError]

/-! ### Protected headers -/

/-- Meta headers can never replace Content-Type, Access-Control-Allow-Origin,
    Access-Control-Allow-Credentials or the Sec-WebSocket-* headers: for every target header, every
    meta header (any names, any values), each protected entry is unchanged by the merge. -/
theorem merge_protects (a b : Headers) (k : Bytes) (hk : k ∈ protectedNames) :
    hdrGet (mergeHeader a b) k = hdrGet a k :=
  Resgate.merge_protects a b k hk

/-- … and no spelling of a protected name escapes: every name equal to a protected one ignoring
    ASCII case is canonicalised (by `Meta.Canonicalize`, before the merge) to exactly that key. -/
theorem canon_protected (k p : Bytes) (hp : p ∈ protectedNames)
    (heq : toLowerASCII k = toLowerASCII p) : canonicalMIME k = p :=
  Resgate.canon_protected k p hp heq

/-- Set-Cookie values accumulate. -/
theorem set_cookie_accumulates (a : Headers) (v : List Bytes) :
    hdrGet (mergeHeader a [(hSetCookie, v)]) hSetCookie = some ((hdrGet a hSetCookie).getD [] ++ v) :=
  Resgate.set_cookie_accumulates a v

/-! ### Origins -/

/-- With lower-cased allow-list entries (as `Config.prepare` stores them), an origin is accepted
    iff it equals a listed origin ignoring ASCII case — for all byte strings, including invalid
    UTF-8. -/
theorem origin_spec (os : List Bytes) (o : Bytes) (hos : ∀ s ∈ os, toLowerASCII s = s) :
    matchesOrigins os o = true ↔ toLowerASCII o ∈ os :=
  Resgate.matchesOrigins_iff os o hos

/-- **Refusal.** With an allow-list (not `*`), a request whose Origin header is present — even with
    an empty value — and is neither `null` nor equal to a listed origin ignoring ASCII case is
    refused, for HTTP (403, no service request follows) and for the WebSocket upgrade alike; every
    other request is let through. -/
theorem cors_refusal_iff (os : List Bytes) (origin : Option Bytes) (hstar : os.head? ≠ some bStar)
    (hos : ∀ s ∈ os, toLowerASCII s = s) :
    ((corsDecision os origin).refused = true ↔
      ∃ o, origin = some o ∧ o ≠ bNull ∧ toLowerASCII o ∉ os) ∧
    (wsOriginOK os origin = !(corsDecision os origin).refused) := by
  -- with membership in the list read as `matchesOrigins`, both claims are the definitions' case table
  have hm := fun o => Resgate.matchesOrigins_iff os o hos
  simp only [← hm]
  cases origin with
  | none => simp [corsDecision, wsOriginOK, hstar]
  | some o =>
    by_cases hn : o = bNull
    · simp [corsDecision, wsOriginOK, hstar, hn]
    · cases hmo : matchesOrigins os o <;> simp [corsDecision, wsOriginOK, hstar, hn, hmo]

/-- With `*` nothing is refused. -/
theorem cors_star (os : List Bytes) (origin : Option Bytes) (hstar : os.head? = some bStar) :
    (corsDecision os origin).refused = false ∧ wsOriginOK os origin = true := by
  simp [corsDecision, wsOriginOK, hstar]

/-! ### Non-vacuity -/

-- an empty Origin header is refused
example : (corsDecision [[104, 116, 116, 112, 58, 47, 47, 97]] (some [])).refused = true := by decide

example : hContentType ∈ protectedNames := by decide
example : toLowerASCII [99, 79, 110, 84, 69, 78, 84, 45, 116, 121, 112, 101] = toLowerASCII hContentType := by
  decide
example : ∀ s ∈ [[104, 116, 116, 112, 58, 47, 47, 97]], toLowerASCII s = s := by decide
example : matchesOrigins [[104, 116, 116, 112, 58, 47, 47, 97]] [72, 84, 84, 80, 58, 47, 47, 65] = true := by
  decide
-- the pre-fix behaviour (D5) is excluded: two different invalid bytes do not match
example : matchesOrigins [[97, 255]] [97, 254] = false := by decide

end Resgate.C17
