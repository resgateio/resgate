import Resgate.Model.Basic
import Resgate.Model.Diff
import Resgate.Model.Encode
import Resgate.Model.EncodeSpec
import Resgate.Model.Http
import Resgate.Model.HttpDispatch
import Resgate.Model.Nats
import Resgate.Model.Pattern
import Resgate.Model.Rid
import Resgate.Model.Svc
import Resgate.Model.Throttle
import Resgate.Gw.Base
import Resgate.Gw.Cache
import Resgate.Gw.Close
import Resgate.Gw.Collector
import Resgate.Gw.Conn
import Resgate.Gw.Ops
import Resgate.Gw.Populate
import Resgate.Gw.Pure
import Resgate.Gw.QIdx
import Resgate.Gw.Reset
import Resgate.Gw.Run
import Resgate.Gw.Types
import Resgate.Driver
import Resgate.Proofs.Access
import Resgate.Proofs.Assoc
import Resgate.Proofs.Close
import Resgate.Proofs.CloseRun
import Resgate.Proofs.Collector
import Resgate.Proofs.Direct
import Resgate.Proofs.Encode
import Resgate.Proofs.EncodeSpec
import Resgate.Proofs.EvQ
import Resgate.Proofs.GwPure
import Resgate.Proofs.Http
import Resgate.Proofs.KV
import Resgate.Proofs.Lcs
import Resgate.Proofs.Mailbox
import Resgate.Proofs.ModelDiff
import Resgate.Proofs.Nats
import Resgate.Proofs.Path
import Resgate.Proofs.Pattern
import Resgate.Proofs.PatternSpec
import Resgate.Proofs.PatternParse
import Resgate.Proofs.Populate
import Resgate.Proofs.PopulateSet
import Resgate.Proofs.QIdx
import Resgate.Proofs.Ready
import Resgate.Proofs.Release
import Resgate.Proofs.Reset
import Resgate.Proofs.Rid
import Resgate.Proofs.Rpc
import Resgate.Proofs.Split
import Resgate.Proofs.Svc
import Resgate.Proofs.Throttle
import Resgate.Proofs.Version

/-
The library root: the model, the driver and every proof module.  `Properties/Cxx.lean` (which need
the regenerated `Generated/Tables.lean`) are built by name: `bin/setup`, `bin/check`.
-/
